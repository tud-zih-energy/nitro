import NitroVerif.Proto
import NitroVerif.Model.Str
import NitroVerif.Spec.Str
import NitroVerif.Lemmas.Str
import NitroVerif.Props.C17
import NitroVerif.Drv.Str
import NitroVerif.Model.Fmt
import NitroVerif.Spec.Fmt
import NitroVerif.Props.C08
import NitroVerif.Drv.Fmt
import NitroVerif.Model.FV
import NitroVerif.Spec.FV
import NitroVerif.Lemmas.FV
import NitroVerif.Props.C06
import NitroVerif.Props.C07
import NitroVerif.Drv.FV
import NitroVerif.Model.Hash
import NitroVerif.Spec.Hash
import NitroVerif.Props.C16
import NitroVerif.Drv.Hash
import NitroVerif.Model.Iter
import NitroVerif.Props.C20
import NitroVerif.Drv.Iter
import NitroVerif.Model.Own
import NitroVerif.Lemmas.Own
import NitroVerif.Props.C18
import NitroVerif.Props.C19
import NitroVerif.Drv.Own
import NitroVerif.Model.Opt
import NitroVerif.Drv.Opt
import NitroVerif.Spec.Opt
import NitroVerif.Lemmas.OptNames
import NitroVerif.Lemmas.OptTok
import NitroVerif.Lemmas.Opt
import NitroVerif.Lemmas.OptSpecInterp
import NitroVerif.Lemmas.OptItems
import NitroVerif.Lemmas.OptDispatch
import NitroVerif.Lemmas.OptLoop
import NitroVerif.Lemmas.OptCheck
import NitroVerif.Lemmas.OptApply
import NitroVerif.Lemmas.OptInterp
import NitroVerif.Lemmas.OptRefine
import NitroVerif.Lemmas.OptSpell
import NitroVerif.Lemmas.UsageWidth
import NitroVerif.Lemmas.UsageForced
import NitroVerif.Lemmas.UsageSection
import NitroVerif.Generated.ToggleVocab
import NitroVerif.Props.C01
import NitroVerif.Props.C02
import NitroVerif.Props.C03
import NitroVerif.Props.C04
import NitroVerif.Props.C11
import NitroVerif.Props.C12
import NitroVerif.Props.C14
import NitroVerif.Model.OptDecl
import NitroVerif.Props.C13
import NitroVerif.Model.Log
import NitroVerif.Props.C05
import NitroVerif.Props.C10
import NitroVerif.Drv.Log
import NitroVerif.Model.MT
import NitroVerif.Generated.MtSinks
import NitroVerif.Generated.HashCombine
import NitroVerif.Generated.PosIndex
import NitroVerif.Generated.UsageLayout
import NitroVerif.Props.C09
import NitroVerif.Drv.MT
import NitroVerif.Model.Usage
import NitroVerif.Drv.Usage
import NitroVerif.Props.C15
