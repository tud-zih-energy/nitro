/-
Specification vocabulary for the string laws (C17), written without regard to
how the C++ works.
-/
namespace NitroVerif.Str

variable {α : Type}

/-- Pieces glued back together with the separator between neighbours. -/
def glue (sep : List α) : List (List α) → List α
  | [] => []
  | [x] => x
  | x :: y :: rest => x ++ sep ++ glue sep (y :: rest)

theorem glue_eq_intercalate (sep : List α) (xs : List (List α)) :
    glue sep xs = List.intercalate sep xs := by
  fun_induction glue sep xs with
  | case1 => rfl
  | case2 x => exact List.intercalate_singleton.symm
  | case3 x y rest ih => rw [ih, List.intercalate_cons_cons]

variable [DecidableEq α]

/-- Number of left-to-right non-overlapping occurrences of `needle` in the
string: scan from the left; at an occurrence count it and continue behind it,
otherwise move on by one character. -/
def countOcc (needle : List α) (hn : needle ≠ []) (hay : List α) : Nat :=
  match hay with
  | [] => 0
  | c :: cs =>
    if needle.isPrefixOf (c :: cs) then 1 + countOcc needle hn ((c :: cs).drop needle.length)
    else countOcc needle hn cs
termination_by hay.length
decreasing_by
  · have : 0 < needle.length := List.length_pos_iff.mpr hn
    simp only [List.length_drop, List.length_cons]; omega
  · simp

/-- Spec for `replace_all`, independent of `find?`: scan from the left, replace
at an occurrence and continue behind it. -/
def replaceSpec (pat : List α) (hn : pat ≠ []) (rep : List α) (hay : List α) : List α :=
  match hay with
  | [] => []
  | c :: cs =>
    if pat.isPrefixOf (c :: cs) then rep ++ replaceSpec pat hn rep ((c :: cs).drop pat.length)
    else c :: replaceSpec pat hn rep cs
termination_by hay.length
decreasing_by
  · have : 0 < pat.length := List.length_pos_iff.mpr hn
    simp only [List.length_drop, List.length_cons]; omega
  · simp

end NitroVerif.Str
