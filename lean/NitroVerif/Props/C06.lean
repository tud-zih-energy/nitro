import NitroVerif.Lemmas.FV

/-!
C06 — fixed_vector stays inside its storage and never exposes unfilled slots.

Quantifiers: every capacity, every finite history of operations over a pool of
vectors (constructors, appends, range inserts, positional emplace, erase, pop,
checked and unchecked access, copy/move construction, the three assignments),
every argument in or out of range, and **every throw point**: each operation
carries a `fuel : Option Nat` saying after how many element operations an
element's constructor/assignment throws.

What the model cannot say (checked at run time by the harness, see DESIGN.md):
that C++ element objects are neither leaked nor destroyed twice.
-/
namespace NitroVerif.Props.C06
open NitroVerif.FV

theorem emplaceBack_safe (v : Vec) (x : Nat) (fuel : Option Nat) (h : VInv v) :
    Safe v (emplaceBack v x fuel) :=
  h.guard fun _ => h.tick .rfl fun _ => h.tick .rfl fun _ =>
    h.wr .rfl (by omega) fun _ s => s.safe h nofun (by omega)

theorem append1_safe (v : Vec) (x : Nat) (fuel : Option Nat) (h : VInv v) :
    Safe v (append1 v x fuel) :=
  h.guard fun _ => h.tick .rfl fun _ => h.wr .rfl (by omega) fun _ s => s.safe h nofun (by omega)

theorem rangeInsert_safe (v : Vec) (pos : Nat) (xs : List Slot) (fuel : Option Nat) (h : VInv v) :
    Safe v (rangeInsert v pos xs fuel) :=
  h.guard fun _ => rangeGo_safe v pos xs fuel h

theorem emplaceAt_safe (v : Vec) (pos x : Nat) (fuel : Option Nat) (h : VInv v) :
    Safe v (emplaceAt v pos x fuel) :=
  h.guard fun _ => h.guard fun _ => h.tick .rfl fun f1 => by
    have := h.2
    split
    · next v1 f2 e =>  -- shifted: the value is moved into place
      have s := shiftR_outcome e
      exact h.tick s.toKept fun _ => h.wr s.toKept (by omega) fun _ t => t.safe h nofun (by omega)
    · next v1 r f2 _ e =>  -- the shift did not complete
      have s := shiftR_outcome e
      exact s.safe h (fun hr => by have := s.oob_of_ub hr; omega) (s.size ▸ h.1)

theorem erase_safe (v : Vec) (pos : Nat) (fuel : Option Nat) (h : VInv v) :
    Safe v (erase v pos fuel) :=
  h.guard fun _ => by
    have := h.1
    have := h.2
    split
    · next v1 e => exact (shiftL_outcome e).safe h nofun (by omega)
    · next v1 r _ e =>  -- the shift did not complete
      have s := shiftL_outcome e
      exact s.safe h (fun hr => by have := s.oob_of_ub hr; omega) (s.size ▸ h.1)

theorem popBack_safe (v : Vec) (h : VInv v) : Safe v (popBack v) :=
  h.guard fun _ => Kept.rfl.safe h nofun (by have := h.1; omega)

/-- Every single-vector operation, at every throw point, keeps the safety
invariant, never touches a slot outside the allocation, and never changes the
capacity. -/
theorem apply_safe (v : Vec) (op : Op) (fuel : Option Nat) (h : VInv v) :
    VInv (apply v op fuel).1 ∧ (apply v op fuel).2 ≠ .ub ∧ (apply v op fuel).1.cap = v.cap := by
  have s : Safe v (apply v op fuel) := by
    have := h.1
    have := h.2
    cases op with
    | emplaceBack x => exact emplaceBack_safe v x fuel h
    | insertC x => exact append1_safe v x fuel h
    | insertM x => exact append1_safe v x fuel h
    | pushBack x => exact append1_safe v x fuel h
    | range pos xs => exact rangeInsert_safe v pos _ fuel h
    | pushRange xs => exact rangeInsert_safe v v.size _ fuel h
    | emplaceAt pos x => exact emplaceAt_safe v pos x fuel h
    | erase pos => exact erase_safe v pos fuel h
    | pop => exact popBack_safe v h
    | atKey key =>
      refine h.same ?_
      by_cases hk : key < v.size
      · rw [atKey_eq h hk, index_eq (by omega)]; nofun
      · rw [atKey_oob (by omega)]; nofun
    | index key =>
      refine h.same ?_
      split
      · rw [index_eq (by omega)]; nofun
      · nofun
  exact ⟨s.inv, s.no_ub, s.cap⟩

/-- The same for operations whose argument aliases an element of the vector. -/
theorem applyA_safe (v : Vec) (a : AOp) (fuel : Option Nat) (h : VInv v) :
    VInv (applyA v a fuel).1 ∧ (applyA v a fuel).2 ≠ .ub ∧ (applyA v a fuel).1.cap = v.cap := by
  unfold applyA
  cases resolveL (elems v) a with
  | none => exact ⟨h, nofun, rfl⟩
  | some op => exact apply_safe v op fuel h

/-- Constructors from a range, whatever they return: no access left the allocation; an object
exists only if everything fitted, and then satisfies the invariant with exactly the requested
capacity. -/
theorem fromIter_safe {cap : Nat} {xs : List Slot} {fuel : Option Nat} {o : Option Vec} {r : Res}
    (e : fromIter cap xs fuel = (o, r)) : r ≠ .ub ∧ ∀ v ∈ o, r = .ok ∧ VInv v ∧ v.cap = cap := by
  have s := rangeInsert_safe (fresh cap) 0 xs fuel (inv_fresh cap)
  unfold fromIter at e
  generalize rangeInsert (fresh cap) 0 xs fuel = w at s e
  obtain ⟨v, r'⟩ := w
  cases r' with
  | ok => cases e; exact ⟨nofun, fun _ h => by cases h; exact ⟨rfl, s.inv, s.cap⟩⟩
  | ub => exact absurd rfl s.no_ub
  | _ => cases e; exact ⟨nofun, nofun⟩

theorem fromIter_inv {cap : Nat} {xs : List Slot} {fuel : Option Nat} {v : Vec} {r : Res}
    (e : fromIter cap xs fuel = (some v, r)) : VInv v := ((fromIter_safe e).2 v rfl).2.1

/-- Pool invariant: every vector object that exists satisfies `VInv`. -/
def PInv (p : Pool) : Prop := ∀ i v, getV p i = some v → VInv v

theorem getV_set (p : Pool) (i k : Nat) (x : Option Vec) :
    getV (p.set i x) k = if i = k ∧ i < p.length then x else getV p k := by
  unfold getV
  by_cases hik : i = k
  · subst hik
    by_cases hl : i < p.length
    · simp [hl]
    · simp [hl]
  · simp [hik]

theorem pinv_set {p : Pool} {i : Nat} {v : Vec} (hp : PInv p) (hv : VInv v) :
    PInv (p.set i (some v)) := by
  intro k w hk
  rw [getV_set] at hk
  split at hk
  · cases hk; exact hv
  · exact hp k w hk

/-- Copy assignment and assignment from a list move-assign a range-constructed temporary; if its
constructor exits by an exception the target keeps its value. -/
theorem copyAssign_safe {dst : Vec} (h : VInv dst) (src : Vec) (fuel : Option Nat) :
    VInv (copyAssign dst src fuel).1 ∧ (copyAssign dst src fuel).2 ≠ .ub := by
  fun_cases copyAssign dst src fuel with
  | case1 _ _ e => exact ⟨fromIter_inv e, nofun⟩
  | case2 _ e => exact ⟨h, (fromIter_safe e).1⟩

theorem listAssign_safe {dst : Vec} (h : VInv dst) (xs : List Slot) (fuel : Option Nat) :
    VInv (listAssign dst xs fuel).1 ∧ (listAssign dst xs fuel).2 ≠ .ub := by
  fun_cases listAssign dst xs fuel with
  | case1 _ _ e => exact ⟨fromIter_inv e, nofun⟩
  | case2 _ e => exact ⟨h, (fromIter_safe e).1⟩

/-- One pool step, any operation, any throw point: the invariant is kept and no
access leaves an allocation. -/
theorem pstep_safe (p : Pool) (op : POp) (fuel : Option Nat) (hp : PInv p) :
    PInv (pstep p op fuel).1 ∧ (pstep p op fuel).2 ≠ .ub := by
  fun_cases pstep p op fuel with
  | case1 i cap => exact ⟨pinv_set hp (inv_fresh cap), nofun⟩  -- new
  | case2 _ _ _ _ _ e => exact ⟨pinv_set hp (fromIter_inv e), nofun⟩  -- newIter
  | case3 _ _ _ _ e => exact ⟨hp, (fromIter_safe e).1⟩
  | case4 _ _ _ _ e => exact ⟨pinv_set hp (fromIter_inv e), nofun⟩  -- newList
  | case5 _ _ _ e => exact ⟨hp, (fromIter_safe e).1⟩
  | case6 => exact ⟨hp, nofun⟩  -- copy
  | case7 _ _ _ _ _ _ e => exact ⟨pinv_set hp (fromIter_inv e), nofun⟩
  | case8 _ _ _ _ _ e => exact ⟨hp, (fromIter_safe e).1⟩
  | case9 => exact ⟨hp, nofun⟩  -- move
  | case10 i j s hj _ _ e =>
    cases e
    exact ⟨pinv_set (pinv_set hp (inv_fresh _)) (hp j s hj), nofun⟩
  | case11 => exact ⟨hp, nofun⟩  -- asg, to itself
  | case12 i j d s _ hi _ _ _ e =>
    have := copyAssign_safe (hp i d hi) s fuel
    rw [e] at this
    exact ⟨pinv_set hp this.1, this.2⟩
  | case13 => exact ⟨hp, nofun⟩
  | case14 i j d s hj hi _ _ e =>  -- masg
    cases e
    exact ⟨pinv_set (pinv_set hp (hp i d hi)) (hp j s hj), nofun⟩
  | case15 => exact ⟨hp, nofun⟩
  | case16 => exact ⟨hp, nofun⟩  -- lasg
  | case17 i xs d hi _ _ e =>
    have := listAssign_safe (hp i d hi) (xs.map .val) fuel
    rw [e] at this
    exact ⟨pinv_set hp this.1, this.2⟩
  | case18 => exact ⟨hp, nofun⟩  -- on
  | case19 i op v hi _ _ e =>
    have := apply_safe v op fuel (hp i v hi)
    rw [e] at this
    exact ⟨pinv_set hp this.1, this.2.1⟩
  | case20 => exact ⟨hp, nofun⟩  -- onA
  | case21 i a v hi _ _ e =>
    have := applyA_safe v a fuel (hp i v hi)
    rw [e] at this
    exact ⟨pinv_set hp this.1, this.2.1⟩

theorem pinv_empty (n : Nat) : PInv (List.replicate n none) := by
  intro i v h
  rw [getV, List.getElem?_replicate] at h
  split at h <;> cases h

theorem prun_inv (hist : List (POp × Option Nat)) (p : Pool) (hp : PInv p) : PInv (prun p hist) := by
  induction hist generalizing p with
  | nil => exact hp
  | cons a rest ih => exact ih _ (pstep_safe p a.1 a.2 hp).1

/-- **C06, safety for every history and every throw schedule.**  Starting from a
pool of `n` not-yet-existing vectors, after any finite history — any operations,
any arguments, any throw points — every existing vector has `size ≤ capacity` and
an allocation of exactly `capacity` slots, and the next operation, whatever it
is, does not access a slot outside an allocation. -/
theorem history_safe (n : Nat) (hist : List (POp × Option Nat)) :
    PInv (prun (List.replicate n none) hist) ∧
    ∀ op fuel, (pstep (prun (List.replicate n none) hist) op fuel).2 ≠ .ub :=
  have h := prun_inv hist _ (pinv_empty n)
  ⟨h, fun op fuel => (pstep_safe _ op fuel h).2⟩

/-- Capacity is fixed at construction: no single-vector operation changes it (only
assigning a whole other container replaces it). -/
theorem capacity_fixed (v : Vec) (op : Op) (fuel : Option Nat) (h : VInv v) :
    (apply v op fuel).1.cap = v.cap := (apply_safe v op fuel h).2.2

/-- Append on a full vector raises, for all four single-element appends. -/
theorem append_full_raises (v : Vec) (x : Nat) (fuel : Option Nat) (h : v.size ≥ v.cap) :
    apply v (.emplaceBack x) fuel = (v, .raised) ∧ apply v (.insertC x) fuel = (v, .raised) ∧
    apply v (.insertM x) fuel = (v, .raised) ∧ apply v (.pushBack x) fuel = (v, .raised) := by
  simp [apply, emplaceBack, append1, h]

theorem pop_empty_raises (v : Vec) (fuel : Option Nat) (h : v.size = 0) :
    apply v .pop fuel = (v, .raised) := by rw [apply, popBack, if_pos h]

/-- Checked access at an index not below size raises — `at(size())` included. -/
theorem at_oob_raises (v : Vec) (key : Nat) (fuel : Option Nat) (h : key ≥ v.size) :
    apply v (.atKey key) fuel = (v, .raised) := by
  rw [apply, atKey_oob h]

theorem erase_oob_raises (v : Vec) (pos : Nat) (fuel : Option Nat) (h : pos ≥ v.size) :
    apply v (.erase pos) fuel = (v, .raised) := by rw [apply, erase, if_pos h]

theorem emplace_oob_or_full_raises (v : Vec) (pos x : Nat) (fuel : Option Nat)
    (h : pos > v.size ∨ v.size ≥ v.cap) : apply v (.emplaceAt pos x) fuel = (v, .raised) := by
  rw [apply, emplaceAt]
  rcases h with h | h
  · rw [if_pos h]
  · rw [if_pos h, ite_self]

/-- Checked access inside the live range returns the slot (and only then). -/
theorem at_in_range (v : Vec) (key : Nat) (fuel : Option Nat) (h : VInv v) (hk : key < v.size) :
    ∃ s, apply v (.atKey key) fuel = (v, .elem s) ∧ (elems v)[key]? = some s := by
  have hl : key < v.slots.length := by have := h.1; have := h.2; omega
  refine ⟨v.slots[key], by rw [apply, atKey_eq h hk, index_eq hl], ?_⟩
  rw [elems, List.getElem?_take_of_lt hk, List.getElem?_eq_getElem hl]

/-- A range that does not fit raises (after filling what fits — it is not a
single-element operation). -/
theorem range_overflow_raises (v : Vec) (key : Nat) (xs : List Slot) (h : VInv v)
    (hk : key ≤ v.size) (hfit : key + xs.length > v.cap) :
    (rangeGo v key xs none).2 = .raised := by
  obtain ⟨E, F, rfl⟩ := exists_ofLists h
  obtain ⟨A, B, rfl, rfl⟩ := exists_split_of_le hk
  rw [rangeGo_ofLists]
  simp only [cap_ofLists, List.length_append] at hfit
  exact if_neg (by omega)

/-- **A failed single-element operation leaves the container unchanged**: whenever a
single-element operation reports the library's exception, the vector is what it
was. -/
theorem failed_single_unchanged (v : Vec) (op : Op) (fuel : Option Nat)
    (hop : match op with | .range _ _ => False | .pushRange _ => False | _ => True)
    (hr : (apply v op fuel).2 = .raised) : (apply v op fuel).1 = v := by
  -- every branch of a single-element operation either returns `(v, .raised)` or does not raise;
  -- for the two that shift, because the shifting loops never raise
  revert hr
  have happ : ∀ x, (append1 v x fuel).2 = .raised → (append1 v x fuel).1 = v := fun x => by
    fun_cases append1 v x fuel <;> simp
  cases op with
  | emplaceBack x => simp only [apply]; fun_cases emplaceBack v x fuel <;> simp
  | insertC x => exact happ x
  | insertM x => exact happ x
  | pushBack x => exact happ x
  | range pos xs => exact hop.elim
  | pushRange xs => exact hop.elim
  | emplaceAt pos x =>
    simp only [apply]
    fun_cases emplaceAt v pos x fuel with
    | case7 _ _ f1 _ v1 r f2 _ e =>  -- the shift did not complete
      exact fun hr => absurd hr (shiftR_outcome e).not_raised
    | _ => simp
  | erase pos =>
    simp only [apply]
    fun_cases erase v pos fuel with
    | case3 _ v1 r _ e =>  -- the shift did not complete
      exact fun hr => absurd hr (shiftL_outcome e).not_raised
    | _ => simp
  | pop => simp only [apply]; fun_cases popBack v <;> simp
  | atKey key => exact fun _ => rfl
  | index key => exact fun _ => rfl

/-! Non-vacuity: concrete reachable states and outcomes. -/
example : VInv (fresh 2) ∧ (apply (fresh 2) (.emplaceBack 7) none).2 = .ok := by decide
example : (apply (fresh 0) (.emplaceBack 7) none).2 = .raised := by decide
example : (apply (apply (fresh 2) (.emplaceBack 7) none).1 (.atKey 1) none).2 = .raised := by decide
example : (apply (apply (fresh 2) (.emplaceBack 7) none).1 (.emplaceAt 0 5) (some 1)).2 = .threw := by decide

end NitroVerif.Props.C06
