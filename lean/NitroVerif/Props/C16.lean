import NitroVerif.Model.Hash
import NitroVerif.Spec.Hash
import NitroVerif.Generated.HashCombine

/-!
C16 — hashing agrees with equality, and comparison with the member tuple.

Proved for all value trees (any nesting, any number of members).  "Up to rare
collisions" is a statistical claim and is *measured* by the correspondence run
(collision count over the exhaustive grids), not proved; what is proved about
sensitivity is injectivity in the last combined component and a concrete
order-matters witness.
-/
namespace NitroVerif.Props.C16
open NitroVerif.Hash

/-- Two values have the same shape (they are values of the same C++ type). -/
def SameShape : Val → Val → Prop
  | .leaf _ _, .leaf _ _ => True
  | .unit, .unit => True
  | .cons x t, .cons y u => SameShape x y ∧ SameShape t u
  | .pair a b, .pair c d => SameShape a c ∧ SameShape b d
  | _, _ => False

/-- The leaf hash is a function of the leaf value: `std::hash` of equal values is
equal (for `double`: `0.0` and `-0.0`; sampled against `std::hash<double>`). -/
def LeafCoherent (hOf : Int → BitVec 64) : Val → Prop
  | .leaf r h => h = hOf r
  | .unit => True
  | .cons x t => LeafCoherent hOf x ∧ LeafCoherent hOf t
  | .pair a b => LeafCoherent hOf a ∧ LeafCoherent hOf b
  | .var x => LeafCoherent hOf x
  | .ptr x => LeafCoherent hOf x

/-- `hashV` and `hashFrom` call each other, so the two are proved together. -/
theorem hash_congr (hOf : Int → BitVec 64) (x y : Val) (he : eqV x y = true)
    (cx : LeafCoherent hOf x) (cy : LeafCoherent hOf y) :
    hashV x = hashV y ∧ ∀ seed, hashFrom seed x = hashFrom seed y := by
  fun_induction eqV x y with
  | case1 r h s k =>
    have hk : h = k := by rw [cx, cy, beq_iff_eq.mp he]
    exact ⟨hk, fun _ => rfl⟩
  | case2 => exact ⟨rfl, fun _ => rfl⟩
  | case3 x t y u ihx iht =>
    rw [Bool.and_eq_true] at he
    have hx := (ihx he.1 cx.1 cy.1).1
    have ht := (iht he.2 cx.2 cy.2).2
    exact ⟨by simp only [hashV, hx, ht], fun seed => by simp only [hashFrom, hx, ht]⟩
  | case4 a b c d iha ihb =>
    rw [Bool.and_eq_true] at he
    exact ⟨by simp only [hashV, (iha he.1 cx.1 cy.1).1, (ihb he.2 cx.2 cy.2).1], fun _ => rfl⟩
  | case5 => exact absurd he (by decide)

/-- **Equal values hash equal.** -/
theorem eq_hash (hOf : Int → BitVec 64) (x y : Val) (he : eqV x y = true)
    (cx : LeafCoherent hOf x) (cy : LeafCoherent hOf y) : hashV x = hashV y :=
  (hash_congr hOf x y he cx cy).1

/-- Pointers hash their pointee, variants combine the held value with seed 0. -/
theorem ptr_hash (x : Val) : hashV (.ptr x) = hashV x := by simp [hashV]
theorem var_hash (x : Val) : hashV (.var x) = combine 0#64 (hashV x) := by simp [hashV]

/-- The combiner is injective in the combined value, for every seed. -/
theorem combine_inj (s a b : BitVec 64) (h : combine s a = combine s b) : a = b := by
  unfold combine at h
  have h1 := (BitVec.xor_right_inj s).mp h
  have h2 := (BitVec.add_left_inj _).mp h1
  have h3 := (BitVec.add_left_inj _).mp h2
  exact (BitVec.add_left_inj _).mp h3

/-- Changing the last member of a tuple (to a member with a different hash) always
changes the tuple's hash: no collision is possible in the last position. -/
theorem tuple_last_injective (seed : BitVec 64) (x y : Val)
    (h : hashFrom seed (.cons x .unit) = hashFrom seed (.cons y .unit)) : hashV x = hashV y := by
  simp only [hashFrom] at h
  exact combine_inj _ _ _ h

/-- The same for the second member of a pair and for a variant's content. -/
theorem pair_second_injective (a b c : Val) (h : hashV (.pair a b) = hashV (.pair a c)) :
    hashV b = hashV c := by
  simp only [hashV] at h; exact combine_inj _ _ _ h

/-- Component order matters: a concrete swap that changes the hash. -/
theorem order_matters :
    hashV (.cons (.leaf 1 1#64) (.cons (.leaf 2 2#64) .unit)) ≠
    hashV (.cons (.leaf 2 2#64) (.cons (.leaf 1 1#64) .unit)) := by
  decide

theorem lt_irrefl (x : Val) : ltV x x = false := by
  induction x with
  | leaf r h => simp [ltV]
  | unit => simp [ltV]
  | cons a t iha iht => simp [ltV, iha, iht]
  | pair a b iha ihb => simp [ltV, iha, ihb]
  | var a _ => simp [ltV]
  | ptr a _ => simp [ltV]

/-- One more member in `std::tuple`'s `<` and `==`: if the operator bits of the head and of the rest are
those of the orderings `o` and `p`, the combined bits are those of `o.then p`. -/
theorem lex_step {l g e l' g' e' : Bool} {o p : Ordering}
    (h : l = (o == .lt) ∧ g = (o == .gt) ∧ e = (o == .eq))
    (h' : l' = (p == .lt) ∧ g' = (p == .gt) ∧ e' = (p == .eq)) :
    (l || (!g && l')) = (o.then p == .lt) ∧ (g || (!l && g')) = (o.then p == .gt) ∧
      (e && e') = (o.then p == .eq) := by
  obtain ⟨rfl, rfl, rfl⟩ := h
  obtain ⟨rfl, rfl, rfl⟩ := h'
  cases o <;> cases p <;> decide

/-- The operators of the mix-in agree with lexicographic comparison of the member
tuple (`cmp`, Spec/Hash.lean), in both argument orders. -/
theorem ops_agree_with_lex (x y : Val) (hs : SameShape x y) :
    ltV x y = (cmp x y == .lt) ∧ ltV y x = (cmp x y == .gt) ∧ eqV x y = (cmp x y == .eq) := by
  fun_induction SameShape x y with
  | case1 r _ s _ =>
    simp only [ltV, eqV, cmp]
    refine ⟨?_, ?_, ?_⟩ <;> rw [Bool.eq_iff_iff] <;>
      simp [Int.compare_eq_lt, Int.compare_eq_gt]
  | case2 => simp [ltV, eqV, cmp]
  | case3 a t b u iha iht =>
    rw [ltV, ltV, eqV, cmp]
    exact lex_step (iha hs.1) (iht hs.2)
  | case4 a b c d iha ihb =>
    rw [ltV, ltV, eqV, cmp]
    exact lex_step (iha hs.1) (ihb hs.2)
  | case5 => exact hs.elim

/-- Exactly one of `<`, `==`, `>` holds (for values of one type). -/
theorem trichotomy (x y : Val) (hs : SameShape x y) :
    (ltV x y = true ∧ eqV x y = false ∧ ltV y x = false) ∨
    (ltV x y = false ∧ eqV x y = true ∧ ltV y x = false) ∨
    (ltV x y = false ∧ eqV x y = false ∧ ltV y x = true) := by
  obtain ⟨h1, h2, h3⟩ := ops_agree_with_lex x y hs
  rw [h1, h2, h3]
  cases cmp x y <;> decide

/-- The six operators are consistent: `<=` is `<` or `==`, `>=` is `>` or `==`,
`!=` is the negation of `==`, `>` is `<` with the arguments swapped. -/
theorem six_consistent (x y : Val) (hs : SameShape x y) :
    le x y = (ltV x y || eqV x y) ∧ ge x y = (gt x y || eqV x y) ∧
    ne x y = !eqV x y ∧ gt x y = ltV y x := by
  obtain ⟨h1, h2, h3⟩ := ops_agree_with_lex x y hs
  simp only [le, ge, ne, gt, h1, h2, h3]
  cases cmp x y <;> decide

theorem sameShape_induction₃ {P : Val → Val → Val → Prop}
    (leaf : ∀ r h s k t l, P (.leaf r h) (.leaf s k) (.leaf t l)) (unit : P .unit .unit .unit)
    (cons : ∀ {a t b u c w}, P a b c → P t u w → P (.cons a t) (.cons b u) (.cons c w))
    (pair : ∀ {a b c d e f}, P a c e → P b d f → P (.pair a b) (.pair c d) (.pair e f))
    {x y z : Val} (hxy : SameShape x y) (hyz : SameShape y z) : P x y z := by
  fun_induction SameShape x y generalizing z with
  | case1 => cases z with | leaf => exact leaf .. | _ => exact hyz.elim
  | case2 => cases z with | unit => exact unit | _ => exact hyz.elim
  | case3 _ _ _ _ iha iht =>
    cases z with
    | cons => exact cons (iha hxy.1 hyz.1) (iht hxy.2 hyz.2)
    | _ => exact hyz.elim
  | case4 _ _ _ _ iha ihb =>
    cases z with
    | pair => exact pair (iha hxy.1 hyz.1) (ihb hxy.2 hyz.2)
    | _ => exact hyz.elim
  | case5 => exact hxy.elim

theorem sameShape_trans {x y z : Val} (hxy : SameShape x y) (hyz : SameShape y z) : SameShape x z :=
  sameShape_induction₃ (P := fun x _ z => SameShape x z) (fun _ _ _ _ _ _ => trivial) trivial
    (fun h1 h2 => ⟨h1, h2⟩) (fun h1 h2 => ⟨h1, h2⟩) hxy hyz

/-- What a transitive order with a compatible equality asks of the outcomes `o`, `p`, `q` of comparing x with y,
y with z and x with z. -/
def Composes (o p q : Ordering) : Prop :=
  (o = .eq → q = p) ∧ (p = .eq → q = o) ∧ (o = .lt → p = .lt → q = .lt)

theorem then_trans {o p q o' p' q' : Ordering} (h : Composes o p q) (h' : Composes o' p' q') :
    Composes (o.then o') (p.then p') (q.then q') := by
  obtain ⟨oeq, peq, lt⟩ := h
  obtain ⟨oeq', peq', lt'⟩ := h'
  simp only [Composes, Ordering.then_eq_eq, Ordering.then_eq_lt]
  refine ⟨fun ⟨ho, ho'⟩ => by rw [oeq ho, oeq' ho'], fun ⟨hp, hp'⟩ => by rw [peq hp, peq' hp'], ?_⟩
  -- `<` then `<`: the first members decide unless they are equal both times
  rintro (ho | ⟨ho, ho'⟩) (hp | ⟨hp, hp'⟩)
  · exact .inl (lt ho hp)
  · exact .inl ((peq hp).trans ho)
  · exact .inl ((oeq ho).trans hp)
  · exact .inr ⟨(oeq ho).trans hp, lt' ho' hp'⟩

theorem cmp_trans {x y z : Val} (hxy : SameShape x y) (hyz : SameShape y z) :
    Composes (cmp x y) (cmp y z) (cmp x z) := by
  refine sameShape_induction₃ (P := fun x y z => Composes (cmp x y) (cmp y z) (cmp x z))
    (fun r _ s _ t _ => ?_) ?_ then_trans then_trans hxy hyz
  · simp only [Composes, cmp, Int.compare_eq_eq, Int.compare_eq_lt]
    exact ⟨fun h => h ▸ rfl, fun h => h ▸ rfl, Int.lt_trans⟩
  · simp [Composes, cmp]

/-- **The order is transitive**, and `==` is a congruence for it (values of one type). -/
theorem order_trans (x y z : Val) (hxy : SameShape x y) (hyz : SameShape y z) :
    (eqV x y = true → eqV y z = true → eqV x z = true) ∧
    (eqV x y = true → ltV y z = true → ltV x z = true) ∧
    (ltV x y = true → eqV y z = true → ltV x z = true) ∧
    (ltV x y = true → ltV y z = true → ltV x z = true) := by
  obtain ⟨l1, _, e1⟩ := ops_agree_with_lex x y hxy
  obtain ⟨l2, _, e2⟩ := ops_agree_with_lex y z hyz
  obtain ⟨l3, _, e3⟩ := ops_agree_with_lex x z (sameShape_trans hxy hyz)
  obtain ⟨c1, c2, c3⟩ := cmp_trans hxy hyz
  rw [l1, l2, l3, e1, e2, e3]
  simp only [beq_iff_eq]
  exact ⟨fun h1 h2 => c1 h1 ▸ h2, fun h1 h2 => c1 h1 ▸ h2, fun h1 h2 => c2 h2 ▸ h1, c3⟩

/-- **The model's combiner is the source's combiner.**  `Generated/HashCombine.lean` is rewritten on every run by
translating the body of `detail::hash_combine_impl<unsigned long>` expression by expression (integer conversions
made explicit); the seeds of `hash(tuple)` / `hash(variant)` and the shape of `hash(pair)` are read off their
instantiations.  Every theorem above about `combine`, `hashV`, `hashFrom` is therefore a theorem about the
arithmetic that is in the header now: changing a constant, a shift, an operator or a seed breaks this
obligation. -/
theorem model_combiner_is_source :
    Generated.hashExtracted = true ∧ Generated.pairShapeSrc = true ∧
    (∀ seed value, combine seed value = Generated.combineSrc seed value) ∧
    hashV .unit = Generated.tupleSeedSrc ∧
    (∀ x t, hashV (.cons x t) = hashFrom (combine Generated.tupleSeedSrc (hashV x)) t) ∧
    (∀ x, hashV (.var x) = combine Generated.variantSeedSrc (hashV x)) ∧
    (∀ a b, hashV (.pair a b) = Generated.combineSrc (hashV a) (hashV b)) := by
  refine ⟨rfl, rfl, fun _ _ => rfl, rfl, fun _ _ => ?_, fun _ => ?_, fun _ _ => ?_⟩
  · simp [hashV, Generated.tupleSeedSrc]
  · simp [hashV, Generated.variantSeedSrc]
  · simp [hashV, combine, Generated.combineSrc]

/-- The injectivity theorem restated for the translated source expression. -/
theorem source_combiner_injective_in_value (seed v w : BitVec 64)
    (h : Generated.combineSrc seed v = Generated.combineSrc seed w) : v = w := by
  rw [← model_combiner_is_source.2.2.1, ← model_combiner_is_source.2.2.1] at h
  exact combine_inj seed v w h

/-! Non-vacuity: a nested value of a mix-in type with a nested mix-in member. -/
example : SameShape (.cons (.cons (.leaf 1 1#64) (.cons (.leaf 5 9#64) .unit)) (.cons (.leaf 2 2#64) .unit))
    (.cons (.cons (.leaf 1 1#64) (.cons (.leaf 4 7#64) .unit)) (.cons (.leaf 3 3#64) .unit)) := by
  simp [SameShape]

end NitroVerif.Props.C16
