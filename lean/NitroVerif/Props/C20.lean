import NitroVerif.Model.Iter

/-!
C20 — enumerate and reverse visit every element once, in the right order, in place.

For every length `n` (no bound).  Overload selection, value categories and the
lifetime of temporaries are C++ semantics outside the model; they are covered by
the harness under AddressSanitizer (container kinds × lvalue/const/rvalue).
-/
namespace NitroVerif.Props.C20
open NitroVerif.Iter

private theorem eLoop_spec (fuel k m : Nat) (hf : m < fuel) :
    eLoop (k + m) fuel ⟨k, k⟩ = (List.range' k m).map fun i => Step.visit i i := by
  induction fuel generalizing k m with
  | zero => exact absurd hf (Nat.not_lt_zero m)
  | succ fuel ih =>
    have hne : eNe ⟨k, k⟩ (eEnd (k + m)) = (k != k + m) := rfl
    rw [eLoop, hne]
    cases m with
    | zero => rw [if_neg (by simp)]; rfl
    | succ m =>
      have := ih (k + 1) m (Nat.lt_of_succ_lt_succ hf)
      rw [Nat.add_right_comm] at this
      rw [if_pos (by simp), if_pos (Nat.lt_add_of_pos_right (Nat.succ_pos m)), List.range'_succ,
        List.map_cons]
      exact congrArg _ this

/-- **enumerate**: the loop visits positions `0, 1, …, n-1` in order, each exactly
once, paired with the indices `0, 1, 2, …`; it terminates and never dereferences
outside the container. -/
theorem enumerate_visits (n : Nat) :
    enumerateSteps n = (List.range n).map fun i => Step.visit i i := by
  have := eLoop_spec (n + 1) 0 n (Nat.lt_succ_self n)
  rw [Nat.zero_add] at this
  rw [List.range_eq_range']
  exact this

private theorem rLoop_spec (n fuel b : Nat) (hb : b ≤ n) (hf : b < fuel) :
    rLoop n fuel b = ((List.range b).reverse).map fun p => Step.visit 0 p := by
  induction fuel generalizing b with
  | zero => exact absurd hf (Nat.not_lt_zero b)
  | succ fuel ih =>
    rw [rLoop]
    cases b with
    | zero => rfl
    | succ b =>
      rw [if_pos (by simp), Nat.add_sub_cancel, if_pos (Nat.lt_of_succ_le hb),
        ih b (Nat.le_of_succ_le hb) (Nat.lt_of_succ_lt_succ hf), List.range_succ, List.reverse_append]
      rfl

/-- **reverse**: the loop visits positions `n-1, …, 1, 0`: exactly the opposite order. -/
theorem reverse_visits (n : Nat) :
    reverseSteps n = ((List.range n).reverse).map fun p => Step.visit 0 p :=
  rLoop_spec n (n + 1) n (Nat.le_refl n) (Nat.lt_succ_self n)

private theorem map_getElem?_range (l : List Int) : (List.range l.length).map (l[·]?) = l.map some := by
  apply List.ext_getElem
  · rw [List.length_map, List.length_range, List.length_map]
  · intro i h1 _
    rw [List.length_map, List.length_range] at h1
    rw [List.getElem_map, List.getElem_range, List.getElem_map, List.getElem?_eq_getElem h1]

/-- The values seen through `enumerate` are the elements with their indices. -/
theorem enumerate_seen (l : List Int) :
    seen l (enumerateSteps l.length) = (List.range l.length).map fun i => (i, l[i]?) := by
  rw [enumerate_visits, seen, List.map_map]; rfl

/-- ... every one present (no dangling dereference), in container order. -/
theorem enumerate_values (l : List Int) :
    (seen l (enumerateSteps l.length)).map (·.2) = l.map some := by
  rw [enumerate_seen, List.map_map]
  exact map_getElem?_range l

/-- The values seen through `reverse` are the elements in reverse order. -/
theorem reverse_values (l : List Int) :
    (seen l (reverseSteps l.length)).map (·.2) = l.reverse.map some := by
  rw [reverse_visits, seen, List.map_map, List.map_map, List.map_reverse, List.map_reverse]
  exact congrArg List.reverse (map_getElem?_range l)

/-- `pre` is the part of the container already written, `l` the part still to be visited. -/
private theorem write_range (f : Int → Int) (pre l : List Int) :
    ((List.range' pre.length l.length).map fun i => Step.visit i i).foldl (writeStep f) (pre ++ l) =
      pre ++ l.map f := by
  induction l generalizing pre with
  | nil => rfl
  | cons a l ih =>
    have hstep : writeStep f (pre ++ a :: l) (.visit pre.length pre.length) = (pre ++ [f a]) ++ l := by
      simp [writeStep]
    have := ih (pre ++ [f a])
    rw [List.length_append, List.length_singleton] at this
    rw [List.length_cons, List.range'_succ, List.map_cons, List.foldl_cons, hstep, this,
      List.append_assoc]
    rfl

/-- **in place**: writing through the references handed out by `enumerate` over an
lvalue range updates every element of the original container exactly once. -/
theorem enumerate_alias (f : Int → Int) (l : List Int) :
    writeThrough f l (enumerateSteps l.length) = l.map f := by
  rw [enumerate_visits, List.range_eq_range']
  exact write_range f [] l

/-- Empty ranges: the loop body never runs. -/
theorem empty_ranges : enumerateSteps 0 = [] ∧ reverseSteps 0 = [] := by
  constructor <;> decide

theorem eLoopPost_eq (n fuel : Nat) (it : EIt) : eLoopPost n fuel it = eLoop n fuel it := by
  induction fuel generalizing it with
  | zero => rfl
  | succ fuel ih => rw [eLoopPost, eLoop, ih]; rfl

/-- A loop that advances the iterator with post-increment sees exactly the same (index, element)
pairs as the range-for loop. -/
theorem post_increment_same (n : Nat) : enumeratePostSteps n = enumerateSteps n :=
  eLoopPost_eq n (n + 1) eBegin

/-- `enumerate(reverse(c))`: indices 0,1,2,… paired with the elements in reverse order. -/
theorem enumerate_of_reverse (l : List Int) :
    (seen l.reverse (enumerateSteps l.reverse.length)).map (·.2) = l.reverse.map some :=
  enumerate_values l.reverse

/-! Non-vacuity. -/
example : seen [7, 8, 9] (enumerateSteps 3) = [(0, some 7), (1, some 8), (2, some 9)] := by decide
example : (seen [7, 8, 9] (reverseSteps 3)).map (·.2) = [some 9, some 8, some 7] := by decide

end NitroVerif.Props.C20
