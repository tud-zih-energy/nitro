import NitroVerif.Lemmas.OptRefine

/-!
C04 — bad user input always ends in the user-input error, under exact conditions.

What a theorem about the model can carry: for every declaration, environment and argument
vector — any byte strings, any length — `parse` is defined (the loop's termination proof is
part of the model) and yields a result, the user error, or the developer error; the developer
error exactly for inconsistent declarations.  That no input crashes, hangs or reads out of
bounds in the C++ is observed by the harness (ASan/UBSan, watchdog, long-token family).
-/
namespace NitroVerif.Props.C04
open NitroVerif.Opt

/-- Everything the parse loop can raise is the user-input error. -/
theorem loop_err (d : Decl) (st : LoopSt) (toks : List Str) (e : Err)
    (h : loop d st toks = .error e) : e = .user :=
  Opt.loop_err toks st h

/-- **Nothing else escapes**: for every declaration, environment and argument vector, `parse` yields
a result, the user-input error, or — exactly when the declaration is inconsistent (two options
share a letter, or an option is called `no-<toggle>`) — the developer error. -/
theorem parse_outcomes (d : Decl) (env : Env) (argv : List Str) :
    (parse d env argv = .error .dev ↔ consistent d = false) ∧
    (consistent d = true → (∃ r, parse d env argv = .ok r) ∨ parse d env argv = .error .user) := by
  cases hc : consistent d with
  | false => simp [parse_of_inconsistent hc]
  | true =>
    unfold parse parseOn
    simp only [hc, Bool.not_true, Bool.false_eq_true, if_false]
    cases hl : loop d ⟨Dyn.fresh, [], false⟩ argv with
    | error e =>
      cases loop_err d _ _ e hl
      simp
    | ok st =>
      simp only
      cases hv : validate d env st.dyn with
      | error e =>
        cases validate_err hv
        simp
      | ok s2 => simp

/-- **Exactly when parsing fails.**  For a consistent declaration with distinct names, `parse` raises
the user-input error if and only if the argument vector has no explanation (an unknown name or
letter, a value missing after a value-taking option, `=value` on a toggle, a malformed dash token
ahead of `--` — the cases in which `explainTok` is `none`), or its explanation has more positionals
than accepted, or gives a single-valued option two values or leaves a required option without any
source, or negates a toggle that is not reversible or also occurs positively, or leaves a toggle to
an environment word outside the vocabulary. -/
theorem parse_fails_exactly_when (d : Decl) (hn : (allNames d).Nodup) (hc : consistent d = true) (env : Env)
    (argv : List Str) :
    parse d env argv = .error .user ↔
      explain d argv = none ∨
      ∃ items, explain d argv = some items ∧
        (tooMany d (positionalsOf items).length = true ∨
         (∃ o ∈ d.opts, interpOpt env items o = .error .user) ∨
         (∃ m ∈ d.muls, interpMul env items m = .error .user) ∨
         (∃ t ∈ d.togs, interpTog env items t = .error .user)) := by
  cases hex : explain d argv with
  | none => simp [parse_of_unexplained d hn hc env argv hex]
  | some items =>
    rw [parse_of_explain d hn hc env argv items hex, interp_err_iff]
    simp only [false_or, Option.some.injEq, exists_eq_left', reduceCtorEq]

theorem explainValue_none_iff (n : Str) (sh : Bool) (v next : Option Str) :
    explainValue n sh v next = none ↔
      v = none ∧ (next = none ∨ ∃ nx, next = some nx ∧ isValueTok nx = false) := by
  unfold explainValue
  cases v with
  | some v' => simp
  | none =>
    cases next with
    | none => simp
    | some nx => by_cases h : isValueTok nx = true <;> simp [h]

/-- the conditions under which one option-like token has no explanation, spelled out for a long token -/
theorem explainLong_none_iff (d : Decl) (n : Str) (v next : Option Str) :
    explainLong d n v next = none ↔
      (isValueOptName d n = true ∧ v = none ∧ (next = none ∨ ∃ nx, next = some nx ∧ isValueTok nx = false)) ∨
      (isValueOptName d n = false ∧ isTogName d n = true ∧ v.isSome = true) ∨
      (isValueOptName d n = false ∧ isTogName d n = false ∧ (noPrefix.isPrefixOf n && isTogName d (n.drop 3)) = true ∧
        v.isSome = true) ∨
      (isValueOptName d n = false ∧ isTogName d n = false ∧ (noPrefix.isPrefixOf n && isTogName d (n.drop 3)) = false) := by
  unfold explainLong
  -- the three tests select the branch of `explainLong` and the one disjunct that can hold
  cases isValueOptName d n
  · cases isTogName d n
    · cases (noPrefix.isPrefixOf n && isTogName d (n.drop 3))
      · simp                          -- nothing declared under this name: the fourth
      · cases v <;> simp              -- `--no-<toggle>`: the third, iff a value is attached
    · cases v <;> simp                -- a toggle: the second, iff a value is attached
  · simp [explainValue_none_iff]      -- a value-taking option: the first

/-- … and for a short token: a single letter of a value-taking option without a value; a single
letter that is no toggle letter, or a toggle letter with `=value`; a bundle with `=value` or with a
letter that is no toggle letter. -/
theorem explainShort_none_iff (d : Decl) (letters : Str) (v next : Option Str) :
    explainShort d letters v next = none ↔
      (∃ c, letters = [c] ∧
        ((∃ n, valueOptOfLetter d c = some n ∧ v = none ∧
            (next = none ∨ ∃ nx, next = some nx ∧ isValueTok nx = false)) ∨
         (valueOptOfLetter d c = none ∧ (v.isSome = true ∨ isTogLetter d c = false)))) ∨
      ((∀ c, letters ≠ [c]) ∧ (v.isSome = true ∨ letters.all (isTogLetter d) = false)) := by
  unfold explainShort
  split
  · rename_i c
    -- a single letter: the second disjunct is out, the first holds with `c`
    have hbundle : ¬ ∀ c', [c] ≠ [c'] := fun h => h c rfl
    simp only [hbundle, false_and, or_false, List.cons.injEq, and_true, exists_eq_left']
    cases valueOptOfLetter d c with
    | some n => simp [explainValue_none_iff]     -- the letter of a value-taking option
    | none => cases v <;> simp                   -- a toggle letter, or no letter at all
  · rename_i hnot
    -- a bundle: the first disjunct is out
    have hne : ∀ c, letters ≠ [c] := fun c hc => hnot c hc
    cases v <;> simp [hne]

end NitroVerif.Props.C04
