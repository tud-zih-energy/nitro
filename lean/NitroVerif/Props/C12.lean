import NitroVerif.Lemmas.OptRefine
import NitroVerif.Generated.PosIndex

/-!
C12 — positionals: `--`, greedy mode, the accepted count and negative indices.
The statements about `parse` are corollaries of `parse_factor`; the index arithmetic of
`arguments::get(int)` is self-contained.
-/
namespace NitroVerif.Props.C12
open NitroVerif.Opt

theorem argGet_of_nonneg {pos : List Str} {i : Int} (h : 0 ≤ i) : argGet pos i = pos[i.toNat]? := by
  have h' : ¬ i < 0 := by omega
  simp only [argGet, if_neg h']

theorem argGet_of_neg {pos : List Str} {i : Int} (h : i < 0) :
    argGet pos i = if i + pos.length < 0 then none else pos[(i + pos.length).toNat]? := by
  simp only [argGet, if_pos h]

/-- Non-negative indices address from the front. -/
theorem index_front (pos : List Str) (i : Nat) (h : i < pos.length) :
    argGet pos (i : Int) = some pos[i] := by
  rw [argGet_of_nonneg (by omega)]
  simp [h]

/-- **Index `-k` addresses the k-th positional from the end.** -/
theorem index_from_end (pos : List Str) (k : Nat) (hk : 1 ≤ k) (hn : k ≤ pos.length) :
    argGet pos (-(k : Int)) = pos[pos.length - k]? := by
  rw [argGet_of_neg (by omega), if_neg (by omega)]
  congr 1
  omega

/-- Indices outside `[-n, n)` raise. -/
theorem index_out_of_range (pos : List Str) (i : Int)
    (h : i < -(pos.length : Int) ∨ (pos.length : Int) ≤ i) : argGet pos i = none := by
  rcases h with h | h
  · rw [argGet_of_neg (by omega), if_pos (by omega)]
  · rw [argGet_of_nonneg (by omega), List.getElem?_eq_none (by omega)]

/-- Inside the range every index yields an element. -/
theorem index_in_range (pos : List Str) (i : Int)
    (h1 : -(pos.length : Int) ≤ i) (h2 : i < (pos.length : Int)) : (argGet pos i).isSome := by
  by_cases hi : i < 0
  · rw [argGet_of_neg hi, if_neg (by omega), List.getElem?_eq_getElem (by omega)]; rfl
  · rw [argGet_of_nonneg (by omega), List.getElem?_eq_getElem (by omega)]; rfl

example : argGet [['a'], ['b'], ['c']] (-1) = some ['c'] := by decide
example : argGet [['a'], ['b'], ['c']] (-4) = none := by decide

/-- Once in only-positionals mode (after the first `--`, or after the first positional in greedy
mode) every token is a positional, verbatim — whatever it looks like. -/
theorem explainGo_onlyPos (d : Decl) (toks : List Str) : explainGo d true toks = some (toks.map .pos) := by
  induction toks with
  | nil => exact explainGo_nil d true
  | cons tok rest ih => rw [explainGo_pos rfl, Bool.true_or, ih]; rfl

/-- everything after the first `--` is positional -/
theorem explain_after_separator (d : Decl) (rest : List Str) :
    explainGo d false (dashes :: rest) = some (.sep :: rest.map .pos) := by
  rw [explainGo_sep rfl rfl, explainGo_onlyPos]; rfl

/-- greedy mode: the first positional turns everything behind it into positionals -/
theorem explain_greedy (d : Decl) (hg : d.greedy = true) (tok : Str) (rest : List Str)
    (hv : isValueTok tok = true) : explainGo d false (tok :: rest) = some ((tok :: rest).map .pos) := by
  rw [explainGo_pos (by rw [hv]; rfl), hg, Bool.or_true, explainGo_onlyPos]; rfl

/-- **The accepted count**: parsing succeeds only with at most the accepted number of positionals,
which are reported verbatim and in order. -/
theorem parse_positionals (d : Decl) (hn : (allNames d).Nodup) (env : Env) (argv : List Str) (r : Result)
    (h : parse d env argv = .ok r) :
    ∃ items, explain d argv = some items ∧ r.pos = positionalsOf items ∧ tooMany d r.pos.length = false := by
  obtain ⟨items, hex, hi⟩ := parse_ok_inv d hn env argv r h
  obtain ⟨h1, h2, _⟩ := interp_ok_inv d env items r hi
  exact ⟨items, hex, h2, by rw [h2]; exact h1⟩

theorem parse_too_many (d : Decl) (hn : (allNames d).Nodup) (hc : consistent d = true) (env : Env)
    (argv : List Str) (items : List Item) (hex : explain d argv = some items)
    (h : tooMany d (positionalsOf items).length = true) : parse d env argv = .error .user := by
  rw [parse_of_explain d hn hc env argv items hex]
  exact (interp_err_iff d env items).mpr (Or.inl h)

/-- tokens after `--` reach the result verbatim: a later `--`, a lone `-`, `---x`, `-=x` -/
theorem parse_after_separator (d : Decl) (hn : (allNames d).Nodup) (env : Env) (rest : List Str) (r : Result)
    (h : parse d env (dashes :: rest) = .ok r) : r.pos = rest := by
  obtain ⟨items, hex, hpos, _⟩ := parse_positionals d hn env _ r h
  cases (explain_after_separator d rest).symm.trans hex
  rw [hpos]
  simp [positionalsOf, List.filterMap_map, Function.comp_def]

/-- The index arithmetic of `arguments::get(int)` as it is in the header now (`Generated/PosIndex.lean`, rewritten on
every run: 32-bit signed index, `i += (int) size` when negative, sign-extending conversion to `size_type`), evaluated
on bit vectors, addresses the same element as the model's unbounded `argGet` - or lies outside the list exactly when
`argGet` has no answer (`at()` raises) - for every list of fewer than 2^31 positionals and every `int`. -/
theorem source_index_bits (n : Nat) (i : Int) (hn : n < 2^31) (h1 : -2^31 ≤ i) (h2 : i < 2^31) :
    let idx := Generated.getIndexSrc (BitVec.ofNat 64 n) (BitVec.ofInt 32 i)
    let j := if i < 0 then i + n else i
    (j < 0 → n ≤ idx.toNat) ∧ (0 ≤ j → idx.toNat = j.toNat) := by
  intro idx j
  have hjr : -2^31 ≤ j ∧ j < 2^31 := by
    simp only [j]; split <;> omega
  -- the adjusted 32-bit index is `j` (nothing wraps), and the sign extension keeps its value;
  -- the widths are given: found by unification against `-2^31 ≤ i` they are slow to check
  have hidx : idx = BitVec.signExtend 64 (BitVec.ofInt 32 j) := by
    show BitVec.signExtend 64 (if BitVec.slt (BitVec.ofInt 32 i) (0#32) then
      BitVec.ofInt 32 i + BitVec.setWidth 32 (BitVec.ofNat 64 n) else BitVec.ofInt 32 i) = _
    rw [BitVec.slt_eq_decide, BitVec.toInt_ofInt_eq_self (w := 32) (by omega) h1 h2, BitVec.toInt_zero,
      BitVec.setWidth_ofNat_of_le (v := 32) (w := 64) (by omega), ← BitVec.ofInt_natCast, ← BitVec.ofInt_add]
    by_cases hneg : i < 0
    · rw [decide_eq_true hneg, if_pos rfl]; simp only [j, if_pos hneg]
    · rw [decide_eq_false hneg, if_neg (by decide)]; simp only [j, if_neg hneg]
  have hj : idx.toInt = j := by
    rw [hidx, BitVec.toInt_signExtend_of_le (w := 32) (v := 64) (by omega), BitVec.toInt_ofInt_eq_self (w := 32) (by omega) hjr.1 hjr.2]
  rw [BitVec.toInt_eq_toNat_cond] at hj
  have := idx.isLt
  constructor <;> intro h <;> split at hj <;> omega

/-- **The model's index access is the source's**: `argGet` (unbounded integers) returns exactly what
`positionals_.at(<the translated index expression>)` returns, and has no answer exactly when `at()` raises. -/
theorem model_index_is_source (pos : List Str) (i : Int) (hn : pos.length < 2^31) (h1 : -2^31 ≤ i) (h2 : i < 2^31) :
    Generated.posIndexExtracted = true ∧
    argGet pos i = pos[(Generated.getIndexSrc (BitVec.ofNat 64 pos.length) (BitVec.ofInt 32 i)).toNat]? := by
  refine ⟨rfl, ?_⟩
  obtain ⟨a, b⟩ := source_index_bits pos.length i hn h1 h2
  simp only [argGet]
  by_cases hj : (if i < 0 then i + (pos.length : Int) else i) < 0
  · rw [if_pos hj, List.getElem?_eq_none (a hj)]
  · rw [if_neg hj, b (by omega)]

end NitroVerif.Props.C12
