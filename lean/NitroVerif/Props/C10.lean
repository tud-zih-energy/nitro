import NitroVerif.Props.C05

/-!
C10 — a disabled log statement costs nothing and evaluates nothing lazily.

The type-level part (the statement's stream type is `null_stream` exactly below the compile-time
minimum) is a fact about C++ template instantiation; it is settled exhaustively by compiling the
harness once per minimum and comparing all 6 x 6 `std::is_same` results with `streamIsNull`
(complete, not sampled).  The theorems here are about what is evaluated at run time.
-/
namespace NitroVerif.Props.C10
open NitroVerif.Log NitroVerif.Props.C05

def isLazy : Event → Bool
  | .lazyCall _ => true
  | _ => false

/-- A statement below the compile-time minimum, or rejected by the runtime filter, never calls a
lazily evaluated callable, the formatter or a sink — in either syntactic form, with any number of
callables. -/
theorem disabled_no_effect (cfg : Cfg) (th : Nat → Sev) (sev : Sev) (tag : Option Str) (items : List Item)
    (named : Option Nat) (h : sev < cfg.minSev ∨ evalF th cfg.filter sev tag = false) :
    statement cfg th sev tag items named = [] :=
  nothing_when_disabled cfg th sev tag items named h

/-- For an emitted record every callable is called exactly once, at the point where it is streamed:
the callable events of the statement are exactly its callables, in statement order, and all of
them precede the formatter. -/
theorem enabled_once_in_place (cfg : Cfg) (th : Nat → Sev) (sev : Sev) (tag : Option Str)
    (items : List Item) (named : Option Nat) (hmin : ¬ sev < cfg.minSev)
    (hf : evalF th cfg.filter sev tag = true) :
    (statement cfg th sev tag items named).filter isLazy = lazyCalls items ∧
    (statement cfg th sev tag items named).take (lazyCalls items).length = lazyCalls items := by
  rw [statement_enabled cfg th sev tag items named hmin hf]
  constructor
  · have h1 : (lazyCalls items).filter isLazy = lazyCalls items :=
      List.filter_eq_self.mpr fun e he => by obtain ⟨id, rfl⟩ := mem_lazyCalls he; rfl
    have h2 : (emit cfg true sev tag items).filter isLazy = [] :=
      List.filter_eq_nil_iff.mpr fun e he => by
        rcases List.mem_cons.mp he with rfl | he
        · exact Bool.false_ne_true
        · obtain ⟨k, -, rfl⟩ := List.mem_map.mp he
          exact Bool.false_ne_true
    rw [List.filter_append, h1, h2, List.append_nil]
  · exact List.take_left

def rawCalls (raw : List RawItem) : List Event :=
  raw.filterMap fun it => match it with | .lazy id _ => some (.lazyCall id) | _ => none

/-- whatever fails in between, the callables of the statement stay the callables -/
theorem lazyCalls_silence (failed : Bool) (raw : List RawItem) : lazyCalls (silence failed raw) = rawCalls raw := by
  induction raw generalizing failed with
  | nil => rfl
  | cons it rest ih =>
    cases it with
    | text s => exact ih failed
    | lazy id s => exact congrArg (Event.lazyCall id :: ·) (ih failed)
    | fail => exact ih true

theorem texts_silence_failed (raw : List RawItem) : texts (silence true raw) = [] := by
  induction raw with
  | nil => rfl
  | cons it rest ih => cases it <;> exact ih

theorem texts_silence_append_fail (failed : Bool) (pre post : List RawItem) :
    texts (silence failed (pre ++ .fail :: post)) = texts (silence failed pre) := by
  induction pre generalizing failed with
  | nil => exact texts_silence_failed post
  | cons it rest ih =>
    cases it with
    | text s => exact congrArg (_ ++ ·) (ih failed)
    | lazy id s => exact congrArg (_ ++ ·) (ih failed)
    | fail => exact ih true

/-- the text of a statement is what was streamed before the first failing insertion -/
theorem texts_silence_prefix (pre : List Item) (post : List RawItem) (toRaw : List RawItem)
    (hpre : silence false toRaw = pre) (hnf : RawItem.fail ∉ toRaw) :
    texts (silence false (toRaw ++ .fail :: post)) = texts pre :=
  hpre ▸ texts_silence_append_fail false toRaw post

/-- **Callables after a failed insertion are still called exactly once each, in place**: for an
emitted record whose statement contains values that leave the string stream failed, the callable
events are exactly the statement's callables in statement order — in either syntactic form. -/
theorem enabled_once_despite_failure (cfg : Cfg) (th : Nat → Sev) (sev : Sev) (tag : Option Str)
    (raw : List RawItem) (named : Option Nat) (hmin : ¬ sev < cfg.minSev)
    (hf : evalF th cfg.filter sev tag = true) :
    (statement cfg th sev tag (silence false raw) named).filter isLazy = rawCalls raw := by
  rw [(enabled_once_in_place cfg th sev tag (silence false raw) named hmin hf).1, lazyCalls_silence]

example : statement ⟨0, .null, 1⟩ (fun _ => 0) 2 none
    (silence false [.text ['a'], .fail, .lazy 4 ['b'], .text ['c']]) none =
    [.lazyCall 4, .fmt 2 none ['a'], .sink 0 2 none ['a']] := by decide

/-- the statement's stream type is the discarding one exactly below the compile-time minimum -/
theorem stream_type (minSev sev : Sev) : streamIsNull minSev sev = true ↔ sev < minSev := by
  simp [streamIsNull]

example : (statement ⟨3, .null, 1⟩ (fun _ => 0) 2 none [.lazy 1 ['x']] none) = [] := by decide

/-- **The runtime filter is asked about the record the formatter would receive — tag included.**  A
statement carrying the tag a user-written filter mutes produces no event at all: no callable is
called, nothing is formatted, no sink is invoked, in either syntactic form. -/
theorem muted_tag_no_effect (minSev members : Nat) (th : Nat → Sev) (sev : Sev) (t : Str)
    (items : List Item) (named : Option Nat) :
    statement ⟨minSev, .tagNot t, members⟩ th sev (some t) items named = [] :=
  disabled_no_effect _ th sev (some t) items named (Or.inr (by simp [evalF]))

/-- … and every other tag (or none, when the muted tag is not the empty one) passes that filter -/
theorem other_tag_passes (th : Nat → Sev) (sev : Sev) (t : Str) (tag : Option Str) (h : tag.getD [] ≠ t) :
    evalF th (.tagNot t) sev tag = true := by
  simp [evalF, h]

example : statement ⟨0, .and (.thr 0) (.tagNot ['T']), 1⟩ (fun _ => 0) 2 (some ['T']) [.lazy 1 ['x']] (some 0) = [] := by
  decide

end NitroVerif.Props.C10
