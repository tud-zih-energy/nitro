import NitroVerif.Lemmas.OptRefine

/-!
C03 — value sources are ranked: command line, then environment, then default.

The ranking is decided in the post-parse `check()` of each option, stated here for the
state the parse loop leaves (`s.val o.name = some v` iff the command line gave `v`; that
link is `parse_factor`'s, see Props/C01).  Then, about `parse` itself: `parse_sources`,
`required_without_source`, `provided_iff`.
-/
namespace NitroVerif.Props.C03
open NitroVerif.Opt

/-- Single-valued option: command line value wins and is untouched; else a non-empty bound
environment variable, delivered verbatim and marked provided; else the default (not provided);
else absent if optional, a user error if required. -/
theorem option_source (env : Env) (s : Dyn) (o : OptD) :
    (∀ v, s.val o.name = some v → checkOpt env s o = .ok s) ∧
    (s.val o.name = none → ∀ e, envNonEmpty env o.env = some e →
        ∃ s', checkOpt env s o = .ok s' ∧ s'.val o.name = some e ∧ s'.dirtyO o.name = true) ∧
    (s.val o.name = none → envNonEmpty env o.env = none → ∀ dv, o.dflt = some dv →
        ∃ s', checkOpt env s o = .ok s' ∧ s'.val o.name = some dv ∧ s'.dirtyO o.name = s.dirtyO o.name) ∧
    (s.val o.name = none → envNonEmpty env o.env = none → o.dflt = none →
        checkOpt env s o = if o.optional then .ok s else .error .user) := by
  unfold checkOpt
  refine ⟨fun v h => by simp [h], ?_, ?_, ?_⟩
  · intro hv e he
    obtain ⟨h1, h2⟩ := envOf_of_envNonEmpty_some env o.env e he
    simp [hv, h1, h2, upd]
  · intro hv he dv hd
    simp [hv, envOf_of_envNonEmpty_none env o.env he, hd, upd]
  · intro hv he hd
    simp [hv, envOf_of_envNonEmpty_none env o.env he, hd]

/-- Multi-option: command line values win; else the environment value split at `;`; else the
default list; else empty if optional, a user error if required. -/
theorem multi_source (env : Env) (s : Dyn) (m : MulD) :
    (s.vals m.name ≠ [] → checkMul env s m = .ok s) ∧
    (s.vals m.name = [] → ∀ e, envNonEmpty env m.env = some e →
        ∃ s', checkMul env s m = .ok s' ∧ s'.vals m.name = splitSemi e) ∧
    (s.vals m.name = [] → envNonEmpty env m.env = none → ∀ dv, m.dflt = some dv →
        ∃ s', checkMul env s m = .ok s' ∧ s'.vals m.name = dv ∧ s'.dirtyM m.name = s.dirtyM m.name) ∧
    (s.vals m.name = [] → envNonEmpty env m.env = none → m.dflt = none →
        checkMul env s m = if m.optional then .ok s else .error .user) := by
  unfold checkMul
  refine ⟨fun h => by simp [h], ?_, ?_, ?_⟩
  · intro hv e he
    obtain ⟨h1, h2⟩ := envOf_of_envNonEmpty_some env m.env e he
    simp [hv, h1, h2, upd]
  · intro hv he dv hd
    simp [hv, envOf_of_envNonEmpty_none env m.env he, hd, upd]
  · intro hv he hd
    simp [hv, envOf_of_envNonEmpty_none env m.env he, hd]

/-! `;`-splitting loses nothing but one trailing separator (`std::getline`'s behaviour). -/

def joinSemi : List Str → Str
  | [] => []
  | [x] => x
  | x :: y :: rest => x ++ ';' :: joinSemi (y :: rest)

private theorem splitSemiGo_spec (s cur : Str) :
    joinSemi (splitSemiGo s cur) = cur.reverse ++ s ∨
    joinSemi (splitSemiGo s cur) ++ [';'] = cur.reverse ++ s := by
  induction s generalizing cur with
  | nil =>
    unfold splitSemiGo
    by_cases h : cur = []
    · subst h; left; simp [joinSemi]
    · left; simp [h, joinSemi]
  | cons c cs ih =>
    unfold splitSemiGo
    by_cases hc : c = ';'
    · subst hc
      simp only [if_true]
      cases hr : splitSemiGo cs [] with
      | nil =>
        -- nothing follows the separator: it is the dropped trailing one
        cases cs with
        | nil => right; simp [joinSemi]
        | cons c' cs' => exact absurd hr (splitSemiGo_ne_nil _ [] (Or.inl (List.cons_ne_nil c' cs')))
      | cons y rest =>
        have := ih []
        rw [hr] at this
        simp only [List.reverse_nil, List.nil_append] at this
        rcases this with h | h
        · left; simp [joinSemi, h]
        · right; simp [joinSemi, ← h]
    · simp only [hc, if_false]
      have := ih (c :: cur)
      simpa using this

/-- The pieces joined with `;` give back the value, up to one trailing `;`. -/
theorem splitSemi_join (s : Str) :
    joinSemi (splitSemi s) = s ∨ joinSemi (splitSemi s) ++ [';'] = s := by
  simpa [splitSemi] using splitSemiGo_spec s []

/-- No piece contains a `;`. -/
theorem splitSemi_clean (s : Str) : ∀ p ∈ splitSemi s, ';' ∉ p := by
  suffices ∀ cur, ';' ∉ cur → ∀ p ∈ splitSemiGo s cur, ';' ∉ p from this [] (by simp)
  induction s with
  | nil =>
    intro cur hc p hp
    unfold splitSemiGo at hp
    split at hp
    · simp at hp
    · simp at hp; subst hp; simpa using hc
  | cons c cs ih =>
    intro cur hc p hp
    unfold splitSemiGo at hp
    split at hp
    · simp only [List.mem_cons] at hp
      rcases hp with rfl | hp
      · simpa using hc
      · exact ih [] (by simp) p hp
    · rename_i hne
      exact ih (c :: cur) (by simp [hc]; exact fun h => hne h.symm) p hp

example : splitSemi ['a', ';', 'b', ';'] = [['a'], ['b']] := by decide
example : splitSemi [';'] = [[]] := by decide

/-- The ranking, read off the specification: command line, then a non-empty environment value
(verbatim), then the default; `provided` exactly for the first two. -/
theorem interpOpt_ranking (env : Env) (items : List Item) (o : OptD) :
    (∀ v, cliValues o.name items = [v] → interpOpt env items o = .ok (some v, true)) ∧
    (cliValues o.name items = [] → ∀ e, envNonEmpty env o.env = some e → interpOpt env items o = .ok (some e, true)) ∧
    (cliValues o.name items = [] → envNonEmpty env o.env = none → ∀ dv, o.dflt = some dv →
        interpOpt env items o = .ok (some dv, false)) ∧
    (cliValues o.name items = [] → envNonEmpty env o.env = none → o.dflt = none →
        interpOpt env items o = if o.optional then .ok (none, false) else .error .user) := by
  refine ⟨fun v h => interpOpt_cli env h, ?_, ?_, ?_⟩
  · intro h e he; simp [interpOpt, h, he]
  · intro h he dv hd; simp [interpOpt, h, he, hd]
  · intro h he hd; simp [interpOpt, h, he, hd]

theorem interpMul_ranking (env : Env) (items : List Item) (m : MulD) :
    (∀ v vs, cliValues m.name items = v :: vs → interpMul env items m = .ok (v :: vs, true)) ∧
    (cliValues m.name items = [] → ∀ e, envNonEmpty env m.env = some e →
        interpMul env items m = .ok (splitSemi e, true)) ∧
    (cliValues m.name items = [] → envNonEmpty env m.env = none → ∀ dv, m.dflt = some dv →
        interpMul env items m = .ok (dv, false)) ∧
    (cliValues m.name items = [] → envNonEmpty env m.env = none → m.dflt = none →
        interpMul env items m = if m.optional then .ok ([], false) else .error .user) := by
  refine ⟨fun v vs h => interpMul_cli env h, ?_, ?_, ?_⟩
  · intro h e he; simp [interpMul, h, he]
  · intro h he dv hd; simp [interpMul, h, he, hd]
  · intro h he hd; simp [interpMul, h, he, hd]

/-- **The ranking holds for `parse`**: whenever parsing succeeds, every declared option, multi-option
and toggle is reported with the value `interpOpt` / `interpMul` / `interpTog` rank for it from the
explanation of the command line and the environment, and is listed as provided when that value came
from the command line or the environment. -/
theorem parse_sources (d : Decl) (hn : (allNames d).Nodup) (env : Env) (argv : List Str) (r : Result)
    (h : parse d env argv = .ok r) :
    ∃ items, explain d argv = some items ∧
      (∀ o ∈ d.opts, ∃ v p, interpOpt env items o = .ok (v, p) ∧ (o.name, v) ∈ r.opts ∧ (p = true → o.name ∈ r.provided)) ∧
      (∀ m ∈ d.muls, ∃ vs p, interpMul env items m = .ok (vs, p) ∧ (m.name, vs) ∈ r.muls ∧ (p = true → m.name ∈ r.provided)) ∧
      (∀ t ∈ d.togs, ∃ c p, interpTog env items t = .ok (c, p) ∧ (t.name, c) ∈ r.togs ∧ (p = true → t.name ∈ r.provided)) := by
  obtain ⟨items, hex, hi⟩ := parse_ok_inv d hn env argv r h
  obtain ⟨_, _, hO, hM, hT⟩ := interp_ok_inv d env items r hi
  exact ⟨items, hex, hO, hM, hT⟩

/-- a required option without any source makes parsing fail with the user-input error -/
theorem required_without_source (d : Decl) (hn : (allNames d).Nodup) (hc : consistent d = true) (env : Env)
    (argv : List Str) (items : List Item) (o : OptD) (ho : o ∈ d.opts) (hex : explain d argv = some items)
    (hcli : cliValues o.name items = []) (henv : envNonEmpty env o.env = none) (hd : o.dflt = none)
    (hreq : o.optional = false) : parse d env argv = .error .user := by
  rw [parse_of_explain d hn hc env argv items hex]
  have herr : interpOpt env items o = .error .user := by
    rw [(interpOpt_ranking env items o).2.2.2 hcli henv hd, hreq]; rfl
  exact (interp_err_iff d env items).mpr (Or.inr (Or.inl ⟨o, ho, herr⟩))

/-- **`provided` exactly when the value came from the command line or the environment**: after a
successful parse an option (of any kind) is in the provided list if and only if the ranking took its
value from one of those two sources (the second component of `interpOpt` / `interpMul` /
`interpTog`, which is `true` exactly in the command-line and environment cases of
`interpOpt_ranking`, `interpMul_ranking`, C11's `interpTog_rules`). -/
theorem provided_iff (d : Decl) (hn : (allNames d).Nodup) (env : Env) (argv : List Str) (r : Result)
    (h : parse d env argv = .ok r) :
    ∃ items, explain d argv = some items ∧
      (∀ o ∈ d.opts, ∀ v p, interpOpt env items o = .ok (v, p) → (o.name ∈ r.provided ↔ p = true)) ∧
      (∀ m ∈ d.muls, ∀ vs p, interpMul env items m = .ok (vs, p) → (m.name ∈ r.provided ↔ p = true)) ∧
      (∀ t ∈ d.togs, ∀ c p, interpTog env items t = .ok (c, p) → (t.name ∈ r.provided ↔ p = true)) := by
  obtain ⟨items, hex, hi⟩ := parse_ok_inv d hn env argv r h
  exact ⟨items, hex, interp_provided_iff d hn env items r hi⟩

end NitroVerif.Props.C03
