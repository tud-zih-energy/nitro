import NitroVerif.Model.Fmt
import NitroVerif.Spec.Fmt
import NitroVerif.Props.C17

/-!
C08 — format substitutes placeholders positionally, verbatim, with exact arity.
-/
namespace NitroVerif.Props.C08
open NitroVerif.Str NitroVerif.Fmt

/-- The pieces of a format: what lies between its `{}` placeholders (the same
left-to-right non-overlapping scan as `split`, so by C17 `glue "{}" pieces = fmt`:
everything outside placeholders, lone and nested braces included, is preserved). -/
def pieces (fmt : Fmt.Str) : List Fmt.Str := splitGo ph ph_ne_nil fmt

theorem pieces_glue (fmt : Fmt.Str) : glue ph (pieces fmt) = fmt :=
  C17.split_join fmt ph ph_ne_nil

theorem pieces_clean (fmt : Fmt.Str) : ∀ p ∈ pieces fmt, ¬ ph <:+: p :=
  C17.split_clean fmt ph ph_ne_nil

/-- Number of placeholders = number of left-to-right non-overlapping `{}`. -/
theorem pieces_count (fmt : Fmt.Str) : (pieces fmt).length = countOcc ph ph_ne_nil fmt + 1 :=
  C17.split_count fmt ph ph_ne_nil

private theorem ph_len : ph.length = 2 := rfl

theorem interleave_cons {α : Type} (p a : List α) {ps : List (List α)} (h : ps ≠ []) (as : List (List α)) :
    interleave (p :: ps) (a :: as) = p ++ a ++ interleave ps as := by
  cases ps with
  | nil => exact absurd rfl h
  | cons q qs => rfl

/-- Main theorem: `str` succeeds exactly when there are as many arguments as
placeholders, and then yields the pieces interleaved with the arguments, the
arguments being inserted verbatim. -/
theorem str_spec (fmt : Fmt.Str) (args : List Fmt.Str) :
    str fmt args =
      if (pieces fmt).length = args.length + 1 then some (interleave (pieces fmt) args)
      else none := by
  unfold str pieces
  induction args generalizing fmt with
  | nil =>
    rw [strGo, splitGo_eq]
    cases find? fmt ph with
    | none => rfl
    | some pos =>
      -- a placeholder is left over: there are at least two pieces
      have := List.length_pos_iff.mpr (splitGo_ne_nil ph ph_ne_nil (fmt.drop (pos + ph.length)))
      exact (if_neg (by rw [List.length_cons, List.length_nil]; omega)).symm
  | cons a as ih =>
    rw [strGo, splitGo_eq]
    cases find? fmt ph with
    | none => exact (if_neg (by simp)).symm
    | some pos =>
      have hne := splitGo_ne_nil ph ph_ne_nil (fmt.drop (pos + 2))
      simp only [ph_len, ih, List.length_cons, Nat.add_right_cancel_iff]
      by_cases hl : (splitGo ph ph_ne_nil (fmt.drop (pos + 2))).length = as.length + 1
      · rw [if_pos hl, if_pos hl, interleave_cons _ _ hne]
      · rw [if_neg hl, if_neg hl]

/-- Arity is decided by the format and the *number* of arguments only. -/
theorem arity_exact (fmt : Fmt.Str) (args : List Fmt.Str) :
    (str fmt args).isSome ↔ args.length = countOcc ph ph_ne_nil fmt := by
  have hc := pieces_count fmt
  rw [str_spec]
  split <;> simp <;> omega

/-- No rescan: replacing the i-th argument by any other text — in particular one
that contains `{}` — changes neither whether `str` succeeds nor where any other
argument or piece of the format ends up: the result is again the pieces of the
*format* interleaved with the new argument list. -/
theorem no_rescan (fmt : Fmt.Str) (args : List Fmt.Str) (i : Nat) (a' : Fmt.Str)
    (h : (str fmt args).isSome) :
    str fmt (args.set i a') = some (interleave (pieces fmt) (args.set i a')) := by
  rw [str_spec] at h ⊢
  split at h
  · rename_i hl; rw [if_pos (by simpa using hl)]
  · simp at h

/-- Too many and too few arguments both raise; no partial output is produced. -/
theorem arity_mismatch_raises (fmt : Fmt.Str) (args : List Fmt.Str)
    (h : args.length ≠ countOcc ph ph_ne_nil fmt) : str fmt args = none := by
  rw [← Option.not_isSome_iff_eq_none, arity_exact]; exact h

theorem more_args_raise (fmt : Fmt.Str) (args : List Fmt.Str)
    (h : countOcc ph ph_ne_nil fmt < args.length) : str fmt args = none :=
  arity_mismatch_raises fmt args (Nat.ne_of_gt h)

theorem fewer_args_raise (fmt : Fmt.Str) (args : List Fmt.Str)
    (h : args.length < countOcc ph ph_ne_nil fmt) : str fmt args = none :=
  arity_mismatch_raises fmt args (Nat.ne_of_lt h)

/-- The message of a raised library exception is the concatenation of the stream
representations of its arguments. -/
theorem make_string_concat (reprs : List Fmt.Str) : makeString reprs = reprs.flatten := by
  simpa [makeString] using List.foldl_append_eq_append (l := reprs) (f := id) (l' := [])

/-- With exactly k arguments the result, split again at the arguments' positions,
gives back the format's pieces: stated as length bookkeeping. -/
theorem str_length (fmt : Fmt.Str) (args : List Fmt.Str) (r : Fmt.Str) (h : str fmt args = some r) :
    r.length + 2 * args.length = fmt.length + (args.map List.length).sum := by
  unfold str at h
  fun_induction strGo fmt args generalizing r with
  | case1 rest pos hf => cases h
  | case2 rest hf =>
    cases h
    rfl
  | case3 rest a as hf => cases h
  | case4 rest a as pos hf ht ih => cases h
  | case5 rest a as pos hf tail ht ih =>
    cases h
    have := ih tail ht
    have hle := find?_le hf
    simp only [ph_len, List.length_append, List.length_take, List.length_cons, List.map_cons,
      List.sum_cons, List.length_drop] at this hle ⊢
    omega

/-! Non-vacuity. -/
example : str ['a', '{', '}', '{', '{', '}', '}'] [['x'], ['{', '}']]
    = some ['a', 'x', '{', '{', '}', '}'] := by decide
example : str ['{', '}'] [] = none := by decide
example : str ['{', '}'] [['a'], ['b']] = none := by decide

end NitroVerif.Props.C08
