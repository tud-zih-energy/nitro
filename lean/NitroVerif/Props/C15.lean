import NitroVerif.Lemmas.UsageSection
import NitroVerif.Generated.UsageLayout
import NitroVerif.Props.C17

/-!
C15 — usage text lists everything once, in declaration order, on any stream.

The model of `parser::usage` takes no stream argument: after the repair the synopsis is wrapped
in a private string stream, so the text cannot depend on the target stream or on what that
stream already contains (the harness compares three kinds of stream byte for byte).  Proved here:
the structure of the option section, that wrapping (`format_padded`) never loses, alters or
reorders a word, and the width clause: a line of the usage text exceeds the width only by words
that can never fit behind the padding (the ghosts `fpLines`, `fpCores` of `Lemmas/UsageForced.lean`).
-/
namespace NitroVerif.Props.C15
open NitroVerif.Usage NitroVerif.Str

def isWs (c : Char) : Bool := c = ' ' || c = '\t' || c = '\n'

/-- maximal runs free of blank, tab and newline -/
def tokGo : Str → Str → List Str
  | cur, [] => if cur = [] then [] else [cur.reverse]
  | cur, c :: cs =>
    if isWs c then (if cur = [] then tokGo [] cs else cur.reverse :: tokGo [] cs)
    else tokGo (c :: cur) cs

def tokens (s : Str) : List Str := tokGo [] s

theorem tokGo_ws_end (cur x : Str) (c : Char) (hc : isWs c = true) (y : Str) :
    tokGo cur (x ++ c :: y) = tokGo cur x ++ tokens y := by
  fun_induction tokGo cur x with
  | case1 =>
    rw [List.nil_append, tokGo, if_pos hc, if_pos rfl]
    rfl
  | case2 cur h =>
    rw [List.nil_append, tokGo, if_pos hc, if_neg h]
    rfl
  | case3 a x ha ih => rw [List.cons_append, tokGo, if_pos ha, if_pos rfl, ih]
  | case4 cur a x ha h ih =>
    rw [List.cons_append, tokGo, if_pos ha, if_neg h, ih]
    rfl
  | case5 cur a x ha ih => rw [List.cons_append, tokGo, if_neg ha, ih]

theorem tokens_append_ws (x : Str) (c : Char) (hc : isWs c = true) (y : Str) :
    tokens (x ++ c :: y) = tokens x ++ tokens y := tokGo_ws_end [] x c hc y

theorem tokens_ws_cons (c : Char) (hc : isWs c = true) (y : Str) : tokens (c :: y) = tokens y :=
  tokens_append_ws [] c hc y

theorem tokens_blanks (x : Str) (n : Int) (y : Str) : tokens (x ++ blanks n ++ y) = tokens x ++ tokens y := by
  have hrep (k : Nat) : tokens (List.replicate k ' ' ++ y) = tokens y := by
    induction k with
    | zero => rfl
    | succ k ih => rw [List.replicate_succ, List.cons_append, tokens_ws_cons ' ' rfl, ih]
  -- `setw` writes at least one blank
  obtain ⟨k, hk⟩ : ∃ k, blanks n = ' ' :: List.replicate k ' ' := by
    unfold blanks
    cases h : (if n ≤ 1 then 1 else n.toNat) with
    | zero => split at h <;> omega
    | succ k => exact ⟨k, rfl⟩
  rw [hk, List.append_assoc, List.cons_append, tokens_append_ws x ' ' rfl, hrep]

theorem tokGo_untab (cur w : Str) : tokGo cur (untab w) = tokGo cur w := by
  induction w generalizing cur with
  | nil => rfl
  | cons c cs ih =>
    have step : untab (c :: cs) = (if c = '\t' then ' ' else c) :: untab cs := rfl
    rw [step]
    by_cases ht : c = '\t'
    · -- a tab becomes a blank: either ends the current word
      subst ht
      simp only [if_true, tokGo, ih]
      rfl
    · simp only [if_neg ht, tokGo, ih]

theorem tokens_untab (w : Str) : tokens (untab w) = tokens w := tokGo_untab [] w

/-- Behind any text `x` the loop's output adds exactly the words of its pieces: whatever it writes for a
piece starts with a blank or a line break. -/
theorem fpGo_tokens_append (lp mw space : Int) (p : Option Int) (ws : List Str) (x : Str) :
    tokens (x ++ fpGo lp mw space p ws) = tokens x ++ ws.flatMap tokens := by
  induction ws generalizing space p x with
  | nil => rw [fpGo, List.append_nil, List.flatMap_nil, List.append_nil]
  | cons w rest ih =>
    -- blanks and word go to the text in front, for which the hypothesis holds as well
    have key (x : Str) (n sp : Int) : tokens (x ++ (blanks n ++ untab w ++ fpGo lp mw sp none rest)) =
        tokens x ++ (tokens w ++ rest.flatMap tokens) := by
      rw [← List.append_assoc, ih, ← List.append_assoc, tokens_blanks, tokens_untab, List.append_assoc]
    rw [fpGo_cons, List.flatMap_cons]
    split
    · exact key x _ _
    · rw [List.cons_append, List.cons_append, tokens_append_ws x '\n' rfl]
      exact congrArg _ (key [] _ _)

/-- **Wrapping preserves the word sequence**: the words of what `format_padded` writes are exactly
the words of the pieces it was given, in the same order — nothing lost, altered or reordered,
whatever the column, padding and width. -/
theorem fpGo_tokens (lp mw space : Int) (p : Option Int) (ws : List Str) :
    tokens (fpGo lp mw space p ws) = ws.flatMap tokens :=
  fpGo_tokens_append lp mw space p ws []

theorem tokens_glue (ws : List Str) : tokens (glue [' '] ws) = ws.flatMap tokens := by
  fun_induction glue [' '] ws with
  | case1 => rfl
  | case2 w => exact (List.append_nil _).symm
  | case3 w v rest ih =>
    rw [List.flatMap_cons, List.append_assoc, List.singleton_append, tokens_append_ws w ' ' rfl, ih]

/-- The same through the public entry point: the words of `format_padded(s, text, …)`'s output are the
words of `text`. -/
theorem formatPadded_words (col : Int) (text : Str) (lp mw : Int) :
    tokens (formatPadded col text lp mw) = tokens text := by
  have : tokens text = (splitGo [' '] (by decide) text).flatMap tokens := by
    rw [← tokens_glue, C17.split_join]
  unfold formatPadded
  split <;> rw [fpGo_tokens, this]

/-- The text is: synopsis paragraph, optional about paragraph, then the groups in the given order
(default group first, then creation order), nothing else. -/
theorem usage_structure (d : UDecl) (t o m l : List Entry) :
    ∃ synopsis, usage d t o m l = synopsis ++ "\n\n".toList ++
      (if d.about ≠ [] then d.about ++ "\n\n".toList else []) ++ (d.groups.map groupUsage).flatten :=
  ⟨synopsisPara d t o m l, usage_eq d t o m l⟩

/-- A group with no option prints nothing; any other prints its header once and then its entries, each
exactly once, in declaration order. -/
theorem group_structure (g : Group) :
    (g.entries = [] → groupUsage g = []) ∧
    (g.entries ≠ [] → ∃ header, groupUsage g = ['\n'] ++ g.name ++ ":\n".toList ++ header ++
      (g.entries.map formatEntry).flatten) := by
  unfold groupUsage
  constructor
  · intro h; simp [h]
  · intro h; simp only [h, if_false]; exact ⟨_, rfl⟩

/-- Every entry starts with its short and long spelling and ends its (possibly wrapped) text with a
line break; the words of its description, environment hint and default are all there, in order. -/
theorem entry_words (e : Entry) :
    ∃ left body, formatEntry e = left ++ body ++ ['\n'] ∧
      left = "  ".toList ++ (if e.short ≠ [] then ['-'] ++ e.short ++ ", ".toList else []) ++ formatName e ++
        (if e.kind = .t then [] else ' ' :: e.metavar) ∧
      tokens body = tokens (join ([e.description] ++
        (if e.env ≠ [] then ["Can be set using the environment variable '".toList ++ e.env ++ "'.".toList] else []) ++
        [formatDefault e]) [' ']) := by
  refine ⟨entryLeft e, _, formatEntry_eq e, rfl, ?_⟩
  show tokens (if entryText e ≠ [] then _ else []) = tokens (entryText e)
  split
  · exact formatPadded_words ..
  · rename_i h
    rw [Decidable.not_not.mp h]

example : tokens (formatPadded 10 "aa bb\tcc  dd".toList 4 12) = ["aa".toList, "bb".toList, "cc".toList, "dd".toList] := by
  rw [formatPadded_words]; decide +kernel

/-- **No line exceeds the width unless a single unbreakable piece forces it** — `format_padded`:
appended to a line that holds `col` characters, a text without line breaks none of whose
blank-separated pieces is too long to ever fit behind the padding produces no line longer than
`maxW`; the line it continues is left alone when it is already beyond the padding column. -/
theorem width_format_padded (col : Nat) (text : Str) (leftPad maxW : Int) (h0 : 0 ≤ leftPad) (h1 : leftPad < maxW)
    (hnl : '\n' ∉ text)
    (hfit : ∀ w ∈ NitroVerif.Str.splitGo [' '] (by decide) text, (w.length : Int) + 1 ≤ maxW - leftPad) :
    ∀ L ∈ lineLens col (formatPadded col text leftPad maxW), (L : Int) ≤ max (col : Int) maxW := by
  -- no piece is a never-fitting word, so no line of the ghost is flagged and `fpLines_width` bounds them all
  have hw : ∀ w ∈ splitGo [' '] (by decide) text, neverFits leftPad maxW w = false := fun w hm =>
    Bool.eq_false_iff.mpr fun h => by
      have := (neverFits_iff (Int.le_of_lt h1) w).mp h
      have := hfit w hm
      omega
  rw [← formatPaddedLines_lens col text leftPad maxW hnl]
  intro L hL
  obtain ⟨p, hp, rfl⟩ := List.mem_map.mp hL
  exact formatPaddedLines_width col text leftPad maxW h0 h1 p hp
    (formatPaddedLines_unflagged col text leftPad maxW hw p hp)

/-- every entry of the option section whose left column is at most 80 wide (the complement is
known finding U2) and whose description, environment hint and default have no piece longer than 39 -/
theorem width_entry (e : Entry) (hl : '\n' ∉ entryLeft e) (hll : (entryLeft e).length ≤ 80)
    (ht : '\n' ∉ entryText e)
    (hfit : ∀ w ∈ NitroVerif.Str.splitGo [' '] (by decide) (entryText e), w.length + 1 ≤ 40) :
    ∀ L ∈ lineLens 0 (formatEntry e), L ≤ 80 := by
  rw [lineLens_formatEntry e hl]
  intro L hL
  rcases List.mem_append.mp hL with hL | hL
  · split at hL
    · have := width_format_padded (entryLeft e).length (entryText e) 40 80 (by omega) (by omega) ht
        (fun w hw => by have := hfit w hw; omega) L hL
      omega
    · rw [List.mem_singleton] at hL
      omega
  · rw [List.mem_singleton] at hL
    omega

/-- the synopsis, for application names shorter than 72 characters (the complement is known
finding U3) -/
theorem width_synopsis (d : UDecl) (t o m l : List Entry) (happ : '\n' ∉ d.app) (hlen : d.app.length < 72)
    (hs : '\n' ∉ (synopsisText d t o m l).drop 1)
    (hfit : ∀ w ∈ NitroVerif.Str.splitGo [' '] (by decide) ((synopsisText d t o m l).drop 1),
      w.length + 1 + (8 + d.app.length) ≤ 80) :
    ∀ L ∈ lineLens 0 (synopsisPara d t o m l), L ≤ 80 := by
  rw [lineLens_synopsisPara d t o m l happ]
  intro L hL
  split at hL
  · have := width_format_padded (7 + d.app.length) ((synopsisText d t o m l).drop 1) (8 + d.app.length) 80
      (by omega) (by omega) hs (fun w hw => by have := hfit w hw; omega) L hL
    omega
  · rw [List.mem_singleton] at hL
    omega

/-- **… unless a single unbreakable word forces it** — `format_padded` with *no* assumption on the
words.  `formatPaddedLines` lists, for every line of the output (the continued one first), its length
and whether a word that can never fit behind the padding (`|w| + 1 > maxW - leftPad`) was put on it;
the first components are exactly the line lengths of the text, and every line without such a word
keeps within the width. -/
theorem width_unless_forced (col : Nat) (text : Str) (leftPad maxW : Int) (h0 : 0 ≤ leftPad) (h1 : leftPad < maxW)
    (hnl : '\n' ∉ text) :
    (formatPaddedLines col text leftPad maxW).map (·.1) = lineLens col (formatPadded col text leftPad maxW) ∧
    ∀ p ∈ formatPaddedLines col text leftPad maxW, p.2 = false → (p.1 : Int) ≤ max (col : Int) maxW :=
  ⟨formatPaddedLines_lens col text leftPad maxW hnl, formatPaddedLines_width col text leftPad maxW h0 h1⟩

/-- a line is flagged only because of such a word: without one among the words nothing is flagged
(so `width_unless_forced` contains `width_format_padded`) -/
theorem no_forcing_word_no_flag (leftPad maxW : Int) (words : List Str)
    (hw : ∀ w ∈ words, ((0 ≤ maxW - leftPad) && decide ((w.length : Int) + 1 > maxW - leftPad)) = false)
    (space : Int) (pending : Option Int) (col : Nat) :
    ∀ p ∈ fpLines leftPad maxW space pending words col false, p.2 = false :=
  fpLines_unflagged leftPad maxW words hw space pending col

/-- one entry of the option section, no assumption on its words: its lines are those of the ghost
(plus the empty rest behind the final line break), and every line without a never-fitting word is at
most as long as the left column or 80 -/
theorem width_entry_unless_forced (e : Entry) (hl : '\n' ∉ entryLeft e) (ht : '\n' ∉ entryText e)
    (hne : entryText e ≠ []) :
    lineLens 0 (formatEntry e) =
      (formatPaddedLines (entryLeft e).length (entryText e) 40 80).map (·.1) ++ [0] ∧
    ∀ p ∈ formatPaddedLines (entryLeft e).length (entryText e) 40 80, p.2 = false →
      p.1 ≤ max (entryLeft e).length 80 := by
  constructor
  · rw [lineLens_formatEntry e hl, if_pos hne, formatPaddedLines_lens _ _ _ _ ht]
  · intro p hp hf
    have := formatPaddedLines_width (entryLeft e).length (entryText e) 40 80 (by omega) (by omega) p hp hf
    omega

/-- the synopsis, no assumption on its pieces (application names shorter than 72 characters) -/
theorem width_synopsis_unless_forced (d : UDecl) (t o m l : List Entry) (happ : '\n' ∉ d.app)
    (hlen : d.app.length < 72) (hs : '\n' ∉ (synopsisText d t o m l).drop 1)
    (hne : synopsisText d t o m l ≠ []) :
    lineLens 0 (synopsisPara d t o m l) =
      (formatPaddedLines (7 + d.app.length) ((synopsisText d t o m l).drop 1) (8 + d.app.length) 80).map (·.1) ∧
    ∀ p ∈ formatPaddedLines (7 + d.app.length) ((synopsisText d t o m l).drop 1) (8 + d.app.length) 80,
      p.2 = false → p.1 ≤ 80 := by
  constructor
  · rw [lineLens_synopsisPara d t o m l happ, if_pos hne, formatPaddedLines_lens _ _ _ _ hs]
  · intro p hp hf
    have := formatPaddedLines_width (7 + d.app.length) ((synopsisText d t o m l).drop 1) (8 + d.app.length) 80
      (by omega) (by omega) p hp hf
    omega

/-- **Lines that do hold a never-fitting word**: `formatPaddedCores` lists every line's length and its
*core* — the length the line had when the first never-fitting word was put on it (its whole length
if there is none; behind such a word only further never-fitting words can follow, because the
remaining-space counter is negative from then on).  The lengths are those of the text, every core is
a prefix length of its line, and every core keeps within the width: a line exceeds it only by the
never-fitting words at its end. -/
theorem width_up_to_forcing_words (col : Nat) (text : Str) (leftPad maxW : Int) (h0 : 0 ≤ leftPad)
    (h1 : leftPad < maxW) (hnl : '\n' ∉ text) :
    (formatPaddedCores col text leftPad maxW).map (·.1) = lineLens col (formatPadded col text leftPad maxW) ∧
    ∀ p ∈ formatPaddedCores col text leftPad maxW, p.2 ≤ p.1 ∧ (p.2 : Int) ≤ max (col : Int) maxW :=
  ⟨formatPaddedCores_lens col text leftPad maxW hnl, fun p hp =>
    ⟨formatPaddedCores_core_le col text leftPad maxW p hp, formatPaddedCores_width col text leftPad maxW h0 h1 p hp⟩⟩

example : fpCores 4 12 8 (some 4) ["aa".toList, "bb".toList, "cccccccccccccc".toList, "ddddddddddddddd".toList, "e".toList] 0 none =
    [(40, 9), (5, 5)] := by decide +kernel

-- a 12-column text area behind a 4-column padding: the 14-character word can never fit; it is put on the
-- line that is current, that line is flagged, and the lines before and after it keep within 12
example : fpLines 4 12 8 (some 4) ["aa".toList, "bb".toList, "cccccccccccccc".toList, "dd".toList] 0 false =
    [(24, true), (6, false)] := by decide +kernel
example : lineLens 0 (fpGo 4 12 8 (some 4) ["aa".toList, "bb".toList, "cccccccccccccc".toList, "dd".toList]) =
    [24, 6] := by decide +kernel

/-- **The width clause for the whole option section**, no assumption on the words: the lines of the concatenated
entries are exactly the ghost lines of the single entries (every entry finishes its last line), every line's core
is a prefix length of the line, and every core keeps within its entry's left column or 80 - a line of the option
section exceeds that only by the never-fitting words at its end. -/
theorem width_option_section (es : List Entry) (h : ∀ e ∈ es, '\n' ∉ entryLeft e ∧ '\n' ∉ entryText e) :
    lineLens 0 ((es.map formatEntry).flatten) = (es.flatMap entryCores).map (·.1) ++ [0] ∧
    ∀ p ∈ es.flatMap entryCores, p.2 ≤ p.1 ∧ ∃ e ∈ es, p.2 ≤ max (entryLeft e).length 80 :=
  ⟨section_lines es h, sectionCores_width es⟩

/-- … and when every left column fits (the complement is finding U2), every core is at most 80. -/
theorem width_option_section_80 (es : List Entry) (h : ∀ e ∈ es, '\n' ∉ entryLeft e ∧ '\n' ∉ entryText e)
    (hl : ∀ e ∈ es, (entryLeft e).length ≤ 80) :
    ∀ p ∈ es.flatMap entryCores, p.2 ≤ p.1 ∧ p.2 ≤ 80 := by
  intro p hp
  obtain ⟨h1, e, he, h2⟩ := (width_option_section es h).2 p hp
  have := hl e he
  exact ⟨h1, by omega⟩

/-- **The lines of a whole group**: an empty line, the heading, (an empty line, the description, an empty line,)
then the entries' lines.  Heading and description are written as they are (finding U4 is about them). -/
theorem width_group (g : Group) (hne : g.entries ≠ []) (hn : '\n' ∉ g.name) (hd : '\n' ∉ g.description)
    (h : ∀ e ∈ g.entries, '\n' ∉ entryLeft e ∧ '\n' ∉ entryText e) :
    lineLens 0 (groupUsage g) =
      [0, g.name.length + 1] ++ (if g.description ≠ [] then [0, g.description.length, 0] else []) ++
        (g.entries.flatMap entryCores).map (·.1) ++ [0] := by
  have := group_lines g fun _ => ⟨hn, hd, h⟩
  rwa [groupLinesOf, if_neg hne] at this

/-- **The lines of the complete usage text.**  For every declaration whose group names, group descriptions, entry
left columns and entry texts hold no line break: the usage text consists of the lines of the synopsis paragraph
(`width_synopsis_unless_forced`), an empty line, the about text exactly as given (finding U4) and an empty line, and per
group with entries an empty line, the heading, the optional description block and the entry lines - each of which
has a core within its entry's left column or 80 (`width_option_section`). -/
theorem width_usage (d : UDecl) (t o m l : List Entry) (h : ∀ g ∈ d.groups, GroupOk g) :
    lineLens 0 (usage d t o m l) =
      lineLens 0 (synopsisPara d t o m l) ++ [0] ++
        (if d.about ≠ [] then lineLens 0 d.about ++ [0] else []) ++ d.groups.flatMap groupLinesOf ++ [0] ∧
    ∀ g ∈ d.groups, ∀ p ∈ g.entries.flatMap entryCores,
      p.2 ≤ p.1 ∧ ∃ e ∈ g.entries, p.2 ≤ max (entryLeft e).length 80 :=
  ⟨usage_lines d t o m l h, fun g _ => sectionCores_width g.entries⟩

example : GroupOk ⟨"arguments".toList, "what they do".toList,
    [⟨.t, "verbose".toList, "v".toList, [], [], "be chatty".toList, none, none, 0, false⟩]⟩ := by
  intro _; decide +kernel

/-- **The model's layout constants are the source's**: the padding and width handed to `format_padded` by
`base::format` (40, 80) and by `parser::usage` (8 + |app|, 80) are read off the two call sites on every run
(`Generated/UsageLayout.lean`); the width theorems above are stated for exactly these numbers. -/
theorem model_layout_is_source :
    Generated.usageLayoutExtracted = true ∧
    (∀ e : Entry, formatEntry e = entryLeft e ++
      (if entryText e ≠ [] then
        formatPadded (entryLeft e).length (entryText e) Generated.entryPadSrc Generated.entryWidthSrc else []) ++ ['\n']) ∧
    (∀ (d : UDecl) (t o m l : List Entry), synopsisPara d t o m l = "usage: ".toList ++ d.app ++
      (if synopsisText d t o m l ≠ [] then
        formatPadded ("usage: ".toList ++ d.app).length ((synopsisText d t o m l).drop 1)
          ((Generated.synopsisPadBaseSrc + d.app.length : Nat) : Int) Generated.synopsisWidthSrc
      else [])) :=
  ⟨rfl, fun _ => rfl, fun _ _ _ _ _ => rfl⟩

-- non-vacuity: two entries, the second with a 45-character word that can never fit behind the 40-column padding, meet
-- the hypotheses (no line break in the left column or the text); evaluated by the driver their ghost is
-- [(49, 49), (88, 42), (42, 42)] and the line lengths of the section are [49, 88, 42, 0]: the 88-column line has a core
-- of 42 - it exceeds the width only by that word
example :
    let e1 : Entry := ⟨.t, "verbose".toList, "v".toList, [], [], "be chatty".toList, none, none, 0, false⟩
    let e2 : Entry := ⟨.o, "out".toList, [], [], "FILE".toList,
      ("to " ++ String.ofList (List.replicate 45 'x') ++ " go").toList, none, none, 0, false⟩
    ∀ e ∈ [e1, e2], '\n' ∉ entryLeft e ∧ '\n' ∉ entryText e := by decide +kernel

end NitroVerif.Props.C15
