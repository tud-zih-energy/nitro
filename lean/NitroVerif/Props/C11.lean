import NitroVerif.Lemmas.OptRefine
import NitroVerif.Generated.ToggleVocab

/-!
C11 — a toggle counts its occurrences; reversal and env words follow fixed rules.

The vocabulary part is tied to the source by a translator: `Generated/ToggleVocab.lean`
is rewritten from the clang AST of `toggle::parse_env_value` on every run, and the
theorems below compare it with the documented lists (literals in this file) and with
the lists the hand-written model uses.  Adding, removing or re-classifying a word in
the source breaks `vocabulary_is_documented`.
-/
namespace NitroVerif.Props.C11
open NitroVerif.Opt

def truthyDocumented : List Str := [
  ['T','R','U','E'], ['O','N'], ['Y','E','S'], ['t','r','u','e'], ['o','n'], ['y','e','s'], ['1'], ['Y'],
  ['w','i','t','h'], ['T','r','u','e'], ['O','n'], ['W','I','T','H'], ['W','i','t','h'], ['y'], ['Y','e','s']]

def falsyDocumented : List Str := [
  ['f','a','l','s','e'], ['F','A','L','S','E'], ['w','i','t','h','o','u','t'], ['0'], ['N','O'], ['n','o'],
  ['W','i','t','h','o','u','t'], ['n'], ['o','f','f'], ['O','F','F'], ['N'], ['F','a','l','s','e'], ['O','f','f'],
  ['W','I','T','H','O','U','T'], ['N','o']]

/-- **The source's tables are the documented vocabulary** (as sets: same words, no word in
both classes), and the extractor recognised the function. -/
theorem vocabulary_is_documented :
    Generated.vocabExtracted = true ∧
    (∀ w, w ∈ Generated.truthySrc ↔ w ∈ truthyDocumented) ∧
    (∀ w, w ∈ Generated.falsySrc ↔ w ∈ falsyDocumented) ∧
    (∀ w, w ∈ Generated.truthySrc → w ∉ Generated.falsySrc) := by
  refine ⟨by decide, ?_, ?_, ?_⟩
  · have h1 : ∀ w ∈ Generated.truthySrc, w ∈ truthyDocumented := by decide
    have h2 : ∀ w ∈ truthyDocumented, w ∈ Generated.truthySrc := by decide
    exact fun w => ⟨h1 w, h2 w⟩
  · have h1 : ∀ w ∈ Generated.falsySrc, w ∈ falsyDocumented := by decide
    have h2 : ∀ w ∈ falsyDocumented, w ∈ Generated.falsySrc := by decide
    exact fun w => ⟨h1 w, h2 w⟩
  · decide

/-- The hand-written model uses the same tables as the source. -/
theorem model_tables_are_source : truthy = Generated.truthySrc ∧ falsy = Generated.falsySrc :=
  ⟨rfl, rfl⟩

/-- **Closed world**: a word is accepted iff it is documented; truthy words give 1, falsy words 0,
every other string is rejected (a user-input error), never guessed. -/
theorem env_word_closed (w : Str) :
    (parseEnvWord w = some true ↔ w ∈ truthyDocumented) ∧
    (parseEnvWord w = some false ↔ w ∈ falsyDocumented) ∧
    (parseEnvWord w = none ↔ w ∉ truthyDocumented ∧ w ∉ falsyDocumented) := by
  obtain ⟨_, ht, hf, hd⟩ := vocabulary_is_documented
  obtain ⟨h1, h2, h3⟩ := parseEnvWord_iff w
  rw [model_tables_are_source.1, ht] at h1
  rw [model_tables_are_source.1, model_tables_are_source.2, ht, hf] at h2 h3
  exact ⟨h1, h2.trans ⟨fun h => h.2, fun h => ⟨fun h' => hd w ((ht w).mpr h') ((hf w).mpr h), h⟩⟩, h3⟩

/-- There are exactly 15 + 15 words. -/
theorem vocabulary_size : truthyDocumented.length = 15 ∧ falsyDocumented.length = 15 ∧
    truthyDocumented.Nodup ∧ falsyDocumented.Nodup := by decide

/-- A positive occurrence adds the letter's multiplicity (short token) or one (long token). -/
theorem update_positive (s : Dyn) (t : TogD) (u : UI) (s' : Dyn)
    (hv : u.hasValue = false) (hp : (u.hasPrefix && u.nameWithoutPrefix == t.name) = false)
    (h : updateTog s t u = .ok s') :
    s'.given t.name = s.given t.name + togInc t u ∧
    s'.dirtyT t.name = true := by
  rw [updateTog_pos s t u hv hp, togPos] at h
  split at h
  · cases h
  · cases h; exact ⟨upd_same .., upd_same ..⟩

/-- `--no-<name>` is refused for a toggle that is not reversible, and for a reversible one sets
the count to 0. -/
theorem update_negative (s : Dyn) (t : TogD) (u : UI)
    (hv : u.hasValue = false) (hp : (u.hasPrefix && u.nameWithoutPrefix == t.name) = true) :
    (t.reversible = false → updateTog s t u = .error .user) ∧
    (∀ s', updateTog s t u = .ok s' → s'.given t.name = 0 ∧ s'.dirtyT t.name = true) := by
  rw [updateTog_neg s t u hv hp, togNegate]
  constructor
  · intro hr; rw [hr]; rfl
  · intro s' h
    split at h
    · cases h
    · split at h
      · cases h
      · cases h; exact ⟨upd_same .., upd_same ..⟩

/-- Both polarities are rejected in either order. -/
theorem update_conflict (s : Dyn) (t : TogD) (u : UI) (hv : u.hasValue = false)
    (hd : s.dirtyT t.name = true) :
    ((u.hasPrefix && u.nameWithoutPrefix == t.name) = true → s.given t.name ≠ 0 →
        updateTog s t u = .error .user) ∧
    ((u.hasPrefix && u.nameWithoutPrefix == t.name) = false → s.given t.name = 0 →
        updateTog s t u = .error .user) := by
  constructor
  · intro hp hg
    rw [updateTog_neg s t u hv hp, togNegate, hd]
    split
    · rfl
    · rw [if_pos (by simpa using hg)]
  · intro hp hg
    rw [updateTog_pos s t u hv hp, togPos, hd, hg]
    rfl

/-- The environment is consulted only when the toggle did not occur; the default only when neither. -/
theorem check_sources (env : Env) (s : Dyn) (t : TogD) :
    (s.dirtyT t.name = true → checkTog env s t = .ok s) ∧
    (s.dirtyT t.name = false → envNonEmpty env t.env = none →
        ∃ s', checkTog env s t = .ok s' ∧ s'.given t.name = t.dflt ∧ s'.dirtyT t.name = false) ∧
    (s.dirtyT t.name = false → ∀ e, envNonEmpty env t.env = some e →
        match parseEnvWord e with
        | some b => ∃ s', checkTog env s t = .ok s' ∧ s'.given t.name = (if b then 1 else 0) ∧
                          s'.dirtyT t.name = true
        | none => checkTog env s t = .error .user) := by
  unfold checkTog
  refine ⟨fun h => by simp [h], ?_, ?_⟩
  · intro hd he
    simp only [hd, Bool.false_eq_true, if_false, envOf_of_envNonEmpty_none env t.env he]
    simp [upd, hd]
  · intro hd e he
    obtain ⟨h1, h2⟩ := envOf_of_envNonEmpty_some env t.env e he
    simp only [hd, Bool.false_eq_true, if_false, h1, bne_iff_ne.mpr h2, if_true]
    cases parseEnvWord e with
    | none => rfl
    | some b => simp [upd]

example : parseEnvWord ['m','a','y','b','e'] = none := by decide
example : parseEnvWord ['W','i','t','h'] = some true := by decide

/-- each long spelling adds one, each occurrence of the letter in a short token adds one -/
theorem posCount_cons (t : TogD) (it : Item) (rest : List Item) :
    posCount t (it :: rest) = (match it with
      | .togLong n => if n = t.name then 1 else 0
      | .togShort ls => (match t.short with | some c => ls.count c | none => 0)
      | _ => 0) + posCount t rest := by
  cases it <;> rfl

/-- The toggle rules, read off the specification. -/
theorem interpTog_rules (env : Env) (items : List Item) (t : TogD) :
    (negCount t items = 0 → posCount t items > 0 → interpTog env items t = .ok (posCount t items, true)) ∧
    (negCount t items > 0 → t.reversible = true → posCount t items = 0 → interpTog env items t = .ok (0, true)) ∧
    (negCount t items > 0 → t.reversible = false → interpTog env items t = .error .user) ∧
    (negCount t items > 0 → posCount t items > 0 → interpTog env items t = .error .user) ∧
    (negCount t items = 0 → posCount t items = 0 → envNonEmpty env t.env = none →
        interpTog env items t = .ok (t.dflt, false)) ∧
    (negCount t items = 0 → posCount t items = 0 → ∀ e, envNonEmpty env t.env = some e →
        interpTog env items t = match parseEnvWord e with
          | some b => .ok (if b then 1 else 0, true)
          | none => .error .user) :=
  ⟨interpTog_pos, interpTog_neg, interpTog_notReversible, interpTog_conflict,
    fun hn hp he => by rw [interpTog_absent hn hp, he], fun hn hp e he => by rw [interpTog_absent hn hp, he]; rfl⟩

/-- **The rules hold for `parse`**: on success every toggle is reported with the count
`interpTog` assigns it from the explanation of the command line and the environment. -/
theorem parse_toggles (d : Decl) (hn : (allNames d).Nodup) (env : Env) (argv : List Str) (r : Result)
    (h : parse d env argv = .ok r) :
    ∃ items, explain d argv = some items ∧
      ∀ t ∈ d.togs, ∃ c p, interpTog env items t = .ok (c, p) ∧ (t.name, c) ∈ r.togs ∧ (p = true → t.name ∈ r.provided) := by
  obtain ⟨items, hex, hi⟩ := parse_ok_inv d hn env argv r h
  exact ⟨items, hex, (interp_ok_inv d env items r hi).2.2.2.2⟩

/-- both polarities in either order, or `--no-` on a toggle that is not reversible: rejected -/
theorem parse_toggle_conflict (d : Decl) (hn : (allNames d).Nodup) (hc : consistent d = true) (env : Env)
    (argv : List Str) (items : List Item) (t : TogD) (ht : t ∈ d.togs) (hex : explain d argv = some items)
    (hneg : negCount t items > 0) (hbad : t.reversible = false ∨ posCount t items > 0) :
    parse d env argv = .error .user := by
  rw [parse_of_explain d hn hc env argv items hex]
  exact interp_of_bad d env items (Or.inr (Or.inl ⟨t, ht, hneg, hbad⟩))

end NitroVerif.Props.C11
