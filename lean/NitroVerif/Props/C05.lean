import NitroVerif.Model.Log

/-!
C05 — a log statement reaches the sink exactly once iff it is enabled, unaltered.
C10's theorems about lazily evaluated callables are in Props/C10 and reuse the lemmas here.
-/
namespace NitroVerif.Props.C05
open NitroVerif.Log

def texts (items : List Item) : Str :=
  (items.map fun it => match it with | .text s => s | .lazy _ s => s).flatten

def lazyCalls (items : List Item) : List Event :=
  items.filterMap fun it => match it with | .lazy id _ => some (.lazyCall id) | .text _ => none

/-- The specification: what one statement must produce. -/
def specStatement (cfg : Cfg) (th : Nat → Sev) (sev : Sev) (tag : Option Str) (items : List Item) :
    List Event :=
  if sev < cfg.minSev ∨ evalF th cfg.filter sev tag = false then []
  else lazyCalls items ++
    (.fmt sev tag (texts items) :: (List.range cfg.members).map fun k => .sink k sev tag (texts items))

/-- the events of a record that is delivered (`on`): the formatter once, then every member sink once in
declaration order -/
def emit (cfg : Cfg) (on : Bool) (sev : Sev) (tag : Option Str) (items : List Item) : List Event :=
  if on then .fmt sev tag (texts items) :: (List.range cfg.members).map fun k => .sink k sev tag (texts items)
  else []

theorem texts_append (a b : List Item) : texts (a ++ b) = texts a ++ texts b := by
  simp [texts]

theorem lazyCalls_append (a b : List Item) : lazyCalls (a ++ b) = lazyCalls a ++ lazyCalls b := by
  simp [lazyCalls]

theorem texts_nil : texts [] = [] := rfl

theorem texts_cons (it : Item) (l : List Item) : texts (it :: l) = texts [it] ++ texts l :=
  texts_append [it] l

theorem lazyCalls_cons (it : Item) (l : List Item) : lazyCalls (it :: l) = lazyCalls [it] ++ lazyCalls l :=
  lazyCalls_append [it] l

theorem mem_lazyCalls {e : Event} {items : List Item} (h : e ∈ lazyCalls items) : ∃ id, e = .lazyCall id := by
  obtain ⟨it, -, hit⟩ := List.mem_filterMap.mp h
  cases it with
  | text s => cases hit
  | lazy id s => exact ⟨id, (Option.some.inj hit).symm⟩

/-- The state of a stream whose statement is enabled (`on`) or not, after `b` has been streamed: an
enabled stream owns its record and the text so far, a disabled one owns nothing. -/
def objOf (on : Bool) (sev : Sev) (tag : Option Str) (b : Str) : Obj :=
  if on then ⟨true, sev, tag, some b⟩ else ⟨false, sev, tag, none⟩

theorem construct_eq (cfg : Cfg) (th : Nat → Sev) (sev : Sev) (tag : Option Str) :
    construct cfg th sev tag = objOf (evalF th cfg.filter sev tag) sev tag [] := rfl

theorem insert_objOf (on : Bool) (sev : Sev) (tag : Option Str) (b : Str) (it : Item) :
    insertInto (objOf on sev tag b) it =
      (objOf on sev tag (b ++ texts [it]), if on then lazyCalls [it] else []) := by
  cases on
  · rfl
  · cases it <;> simp [objOf, insertInto, texts, lazyCalls]

theorem lchain_objOf (on : Bool) (sev : Sev) (tag : Option Str) (b : Str) (items : List Item) :
    lchain (objOf on sev tag b) items =
      (objOf on sev tag (b ++ texts items), if on then lazyCalls items else []) := by
  induction items generalizing b with
  | nil => rw [texts_nil, List.append_nil]; cases on <;> rfl
  | cons it rest ih =>
    simp only [lchain, insert_objOf, ih, List.append_assoc, texts_cons it rest, lazyCalls_cons it rest]
    cases on <;> rfl

theorem destroy_objOf (cfg : Cfg) (on : Bool) (sev : Sev) (tag : Option Str) (items : List Item) :
    destroy cfg (objOf on sev tag (texts items)) = emit cfg on sev tag items := by
  cases on <;> rfl

theorem destroy_moved (cfg : Cfg) (o : Obj) : destroy cfg (movedFrom o) = [] := rfl

/-- An rvalue chain leaves its last temporary in the state, and produces the events, of the same
insertions into a named stream; every other temporary is moved-from, so its destructor is silent. -/
theorem rchain_eq_lchain (cfg : Cfg) (o : Obj) (items : List Item) :
    (rchain o items).1 = (lchain o items).1 ∧ (rchain o items).2.2 = (lchain o items).2 ∧
    (rchain o items).2.1.reverse.flatMap (destroy cfg) = [] := by
  induction items generalizing o with
  | nil => exact ⟨rfl, rfl, rfl⟩
  | cons it rest ih =>
    obtain ⟨h1, h2, h3⟩ := ih (insertInto o it).1
    refine ⟨h1, congrArg _ h2, ?_⟩
    simp only [rchain, List.reverse_cons, List.flatMap_append, h3, List.flatMap_cons, List.flatMap_nil,
      destroy_moved, List.append_nil]

theorem lchain_append (o : Obj) (a b : List Item) :
    lchain o (a ++ b) = ((lchain (lchain o a).1 b).1, (lchain o a).2 ++ (lchain (lchain o a).1 b).2) := by
  induction a generalizing o with
  | nil => rfl
  | cons it rest ih => simp only [List.cons_append, lchain, ih, List.append_assoc]

theorem statement_eq (cfg : Cfg) (th : Nat → Sev) (sev : Sev) (tag : Option Str) (items : List Item)
    (named : Option Nat) :
    statement cfg th sev tag items named =
      if sev < cfg.minSev then [] else
        (lchain (construct cfg th sev tag) items).2 ++ destroy cfg (lchain (construct cfg th sev tag) items).1 := by
  unfold statement
  split
  · rfl
  · cases named with
    | none =>
      obtain ⟨h1, h2, h3⟩ := rchain_eq_lchain cfg (construct cfg th sev tag) items
      simp only [h1, h2, h3, List.append_nil]
    | some k =>
      obtain ⟨h1, h2, h3⟩ := rchain_eq_lchain cfg (construct cfg th sev tag) (items.take k)
      have h := lchain_append (construct cfg th sev tag) (items.take k) (items.drop k)
      rw [List.take_append_drop] at h
      simp only [h1, h2, h3, h, List.append_nil, List.append_assoc]

theorem statement_enabled (cfg : Cfg) (th : Nat → Sev) (sev : Sev) (tag : Option Str) (items : List Item)
    (named : Option Nat) (hmin : ¬ sev < cfg.minSev) (hf : evalF th cfg.filter sev tag = true) :
    statement cfg th sev tag items named = lazyCalls items ++ emit cfg true sev tag items := by
  rw [statement_eq, if_neg hmin, construct_eq, hf, lchain_objOf, List.nil_append, destroy_objOf]
  rfl

/-- nothing when disabled: neither the formatter nor a sink nor a lazy callable -/
theorem nothing_when_disabled (cfg : Cfg) (th : Nat → Sev) (sev : Sev) (tag : Option Str)
    (items : List Item) (named : Option Nat)
    (h : sev < cfg.minSev ∨ evalF th cfg.filter sev tag = false) :
    statement cfg th sev tag items named = [] := by
  rw [statement_eq]
  split
  · rfl
  · rename_i hmin
    rw [construct_eq, h.resolve_left hmin, lchain_objOf, List.nil_append, destroy_objOf]
    rfl

/-- **Main theorem**: every statement, in either syntactic form (one expression, or a named stream
initialised with any number of items and filled over several statements), produces exactly the
specified events: nothing if disabled; otherwise the lazies once each in statement order, then the
formatter once with the statement's severity, tag and the concatenation of everything streamed,
then every member sink once in declaration order. -/
theorem statement_spec (cfg : Cfg) (th : Nat → Sev) (sev : Sev) (tag : Option Str) (items : List Item)
    (named : Option Nat) :
    statement cfg th sev tag items named = specStatement cfg th sev tag items := by
  unfold specStatement
  split
  · rename_i h
    exact nothing_when_disabled cfg th sev tag items named h
  · rename_i h
    exact statement_enabled cfg th sev tag items named (fun hmin => h (Or.inl hmin))
      ((Bool.not_eq_false _).mp fun hf => h (Or.inr hf))

def enabled (cfg : Cfg) (th : Nat → Sev) (sev : Sev) (tag : Option Str) : Bool :=
  !(decide (sev < cfg.minSev)) && evalF th cfg.filter sev tag

/-- the callables of two interleaved item lists, in the order they are streamed; a disabled stream
calls none of its callables -/
def lazyMerge (ea eb : Bool) : List Item → List Item → List Event
  | [], js => if eb then lazyCalls js else []
  | i :: is, [] => if ea then lazyCalls (i :: is) else []
  | i :: is, j :: js =>
    (if ea then lazyCalls [i] else []) ++ (if eb then lazyCalls [j] else []) ++ lazyMerge ea eb is js

/-- what two overlapping statements must produce: the callables as they are streamed, then the record
of the stream declared last, then the record of the stream declared first — each with its *own*
severity, tag and text -/
def specOverlap (cfg : Cfg) (th : Nat → Sev) (sa : Sev) (ta : Option Str) (is : List Item)
    (sb : Sev) (tb : Option Str) (js : List Item) : List Event :=
  lazyMerge (enabled cfg th sa ta) (enabled cfg th sb tb) is js ++
    emit cfg (enabled cfg th sb tb) sb tb js ++ emit cfg (enabled cfg th sa ta) sa ta is

theorem interleave2_spec (ea eb : Bool) (sa sb : Sev) (ta tb : Option Str) (ba bb : Str)
    (is js : List Item) :
    interleave2 (objOf ea sa ta ba) (objOf eb sb tb bb) is js =
      (objOf ea sa ta (ba ++ texts is), objOf eb sb tb (bb ++ texts js), lazyMerge ea eb is js) := by
  induction is generalizing js ba bb with
  | nil => simp only [interleave2, lchain_objOf, lazyMerge, texts_nil, List.append_nil]
  | cons i is ih =>
    cases js with
    | nil => simp only [interleave2, lchain_objOf, lazyMerge, texts_nil, List.append_nil]
    | cons j js =>
      simp only [interleave2, insert_objOf, ih, lazyMerge, texts_cons i is, texts_cons j js, List.append_assoc]

/-- **Overlapping statements**: two streams that are alive at the same time (same severity or not) do
not share anything: each delivers exactly its own items, once, iff it is enabled. -/
theorem overlap_spec (cfg : Cfg) (th : Nat → Sev) (sa : Sev) (ta : Option Str) (is : List Item)
    (sb : Sev) (tb : Option Str) (js : List Item) :
    overlap cfg th sa ta is sb tb js = specOverlap cfg th sa ta is sb tb js := by
  have hmk : ∀ sev tag, (if sev < cfg.minSev then (⟨false, sev, tag, none⟩ : Obj) else construct cfg th sev tag)
      = objOf (enabled cfg th sev tag) sev tag [] := by
    intro sev tag
    by_cases h : sev < cfg.minSev
    · simp [enabled, objOf, h]
    · simp [enabled, construct_eq, h]
  unfold overlap specOverlap
  simp only [hmk, interleave2_spec, List.nil_append, destroy_objOf]

def specRun (cfg : Cfg) : (Nat → Sev) → List Op → List Event
  | _, [] => []
  | th, .setThr n s :: rest => specRun cfg (fun k => if k = n then s else th k) rest
  | th, .stmt sev tag items _ :: rest => specStatement cfg th sev tag items ++ specRun cfg th rest
  | th, .overlap sa ta is sb tb js :: rest => specOverlap cfg th sa ta is sb tb js ++ specRun cfg th rest

/-- **Histories**: for every sequence of statements and threshold changes the trace is the
concatenation of the statements' specified events, in program order — the syntactic form of each
statement is irrelevant. -/
theorem run_spec (cfg : Cfg) (th : Nat → Sev) (ops : List Op) : run cfg th ops = specRun cfg th ops := by
  induction ops generalizing th with
  | nil => rfl
  | cons op rest ih =>
    cases op with
    | setThr n s => simp only [run, specRun]; exact ih _
    | stmt sev tag items named => simp only [run, specRun, statement_spec, ih]
    | overlap sa ta is sb tb js => simp only [run, specRun, overlap_spec, ih]

/-- the specification of histories in which callables reconfigure the thresholds (`Log.runT`) -/
def specRunT (cfg : Cfg) : (Nat → Sev) → List Op → List Event
  | _, [] => []
  | th, .setThr n s :: rest => specRunT cfg (fun k => if k = n then s else th k) rest
  | th, .stmt sev tag items _ :: rest =>
    specStatement cfg th sev tag items ++ specRunT cfg (thAfter th (specStatement cfg th sev tag items)) rest
  | th, .overlap sa ta is sb tb js :: rest =>
    specOverlap cfg th sa ta is sb tb js ++ specRunT cfg (thAfter th (specOverlap cfg th sa ta is sb tb js)) rest

/-- **Histories whose callables change the thresholds**: every statement is decided by the thresholds
in force when it starts and delivers all of its items (a threshold raised by one of its own callables
neither silences the rest of it nor un-delivers it); later statements see the new thresholds. -/
theorem runT_spec (cfg : Cfg) (th : Nat → Sev) (ops : List Op) : runT cfg th ops = specRunT cfg th ops := by
  induction ops generalizing th with
  | nil => rfl
  | cons op rest ih =>
    cases op with
    | setThr n s => simp only [runT, specRunT]; exact ih _
    | stmt sev tag items named => simp only [runT, specRunT, statement_spec, ih]
    | overlap sa ta is sb tb js => simp only [runT, specRunT, overlap_spec, ih]

/-- without such callables `runT` is `run` -/
theorem thAfter_plain (th : Nat → Sev) (evs : List Event)
    (h : ∀ e ∈ evs, match e with | .lazyCall id => id < 900 | _ => True) : thAfter th evs = th := by
  unfold thAfter
  induction evs with
  | nil => rfl
  | cons e rest ih =>
    have ih := ih fun x hx => h x (List.mem_cons_of_mem e hx)
    have he := h e List.mem_cons_self
    cases e with
    | lazyCall id =>
      have hid : ¬ id ≥ 900 := Nat.not_le.mpr he
      simp only [List.foldl_cons, if_neg hid]
      exact ih
    | fmt a b c => exact ih
    | sink a b c d => exact ih

/-- exactly once: an enabled statement yields exactly one `fmt` event -/
theorem exactly_once (cfg : Cfg) (th : Nat → Sev) (sev : Sev) (tag : Option Str) (items : List Item)
    (named : Option Nat) (hmin : ¬ sev < cfg.minSev) (hf : evalF th cfg.filter sev tag = true) :
    ((statement cfg th sev tag items named).filter fun e => match e with | .fmt _ _ _ => true | _ => false)
      = [.fmt sev tag (texts items)] := by
  have h1 : (lazyCalls items).filter (fun e => match e with | .fmt _ _ _ => true | _ => false) = [] :=
    List.filter_eq_nil_iff.mpr fun e he => by obtain ⟨id, rfl⟩ := mem_lazyCalls he; exact Bool.false_ne_true
  have h2 : ((List.range cfg.members).map fun k => Event.sink k sev tag (texts items)).filter
      (fun e => match e with | .fmt _ _ _ => true | _ => false) = [] :=
    List.filter_eq_nil_iff.mpr fun e he => by obtain ⟨k, -, rfl⟩ := List.mem_map.mp he; exact Bool.false_ne_true
  rw [statement_enabled cfg th sev tag items named hmin hf, List.filter_append, h1, emit, if_pos rfl,
    List.filter_cons_of_pos rfl, h2]
  rfl

/-- the syntactic form is irrelevant -/
theorem form_irrelevant (cfg : Cfg) (th : Nat → Sev) (sev : Sev) (tag : Option Str) (items : List Item)
    (n1 n2 : Option Nat) :
    statement cfg th sev tag items n1 = statement cfg th sev tag items n2 := by
  rw [statement_eq, statement_eq]

/-- double negation of a filter is the filter (the specialisation `not_filter<not_filter<F>>`) -/
theorem not_not (th : Nat → Sev) (f : FExpr) (s : Sev) (t : Option Str) :
    evalF th (.not (.not f)) s t = evalF th f s t := by
  simp [evalF]

/-- A window `T0 and not T1` (in either operand order) accepts exactly the severities from the first threshold up to,
not including, the second.  The thresholds are independent runtime values; no specialisation of the combinators may
assume they are ordered. -/
theorem window_filter (th : Nat → Sev) (s : Sev) (t : Option Str) :
    evalF th (.and (.thr 0) (.not (.thr 1))) s t = (decide (th 0 ≤ s) && decide (s < th 1)) ∧
    evalF th (.and (.not (.thr 1)) (.thr 0)) s t = (decide (th 0 ≤ s) && decide (s < th 1)) := by
  constructor
  · simp only [evalF, ← decide_not, Nat.not_le]
  · simp only [evalF, ← decide_not, Nat.not_le]; rw [Bool.and_comm]

/-- … so an *inverted* window (second threshold not above the first) accepts nothing: by `statement_spec` no record of
a statement behind it reaches the formatter or a sink, and none of its callables is called. -/
theorem inverted_window_rejects_everything (th : Nat → Sev) (h : th 1 ≤ th 0) (s : Sev) (t : Option Str) :
    evalF th (.and (.thr 0) (.not (.thr 1))) s t = false ∧ evalF th (.and (.not (.thr 1)) (.thr 0)) s t = false := by
  rw [(window_filter th s t).1, (window_filter th s t).2]
  by_cases h0 : th 0 ≤ s
  · have : ¬ (s < th 1) := Nat.not_lt.mpr (Nat.le_trans h h0)
    simp [h0, this]
  · simp [h0]

example : statement ⟨2, .and (.thr 0) (.not (.thr 1)), 2⟩ (fun n => if n = 0 then 2 else 5) 3 (some ['t'])
    [.text ['a'], .lazy 7 ['b']] (some 1) =
    [.lazyCall 7, .fmt 3 (some ['t']) ['a', 'b'], .sink 0 3 (some ['t']) ['a', 'b'], .sink 1 3 (some ['t']) ['a', 'b']] := by
  decide

end NitroVerif.Props.C05
