import NitroVerif.Lemmas.Str

/-!
C17 — split, join, replace_all and starts_with obey their string laws.

Every theorem is about the model in `Model/Str.lean`, for all strings over any
alphabet with decidable equality, all separators / patterns / replacements, all
lists of elements.  Nothing here bounds a length.
-/
namespace NitroVerif.Props.C17
open NitroVerif.Str

variable {α : Type} [DecidableEq α]

/-- Splitting loses nothing: the pieces glued with the separator are the input. -/
theorem split_join (s sep : List α) (hn : sep ≠ []) :
    glue sep (splitGo sep hn s) = s := by
  fun_induction splitGo sep hn s with
  | case1 rest pos h ih =>
    rw [glue_cons_of_ne_nil _ _ (splitGo_ne_nil _ _ _), ih]
    exact (find?_some_split h).symm
  | case2 rest h => rfl

/-- The same law through the public entry point and the library's `intercalate`. -/
theorem split_intercalate (s sep : List α) (pieces : List (List α))
    (h : split s sep = some pieces) : List.intercalate sep pieces = s := by
  unfold split at h
  split at h
  · simp at h
  · rename_i hn
    simp at h; subst h
    rw [← glue_eq_intercalate]; exact split_join s sep hn

/-- `split` raises exactly for the empty separator. -/
theorem split_raises_iff (s sep : List α) : split s sep = none ↔ sep = [] := by
  unfold split; split <;> simp_all

/-- The number of pieces is one more than the number of left-to-right
non-overlapping separator occurrences. -/
theorem split_count (s sep : List α) (hn : sep ≠ []) :
    (splitGo sep hn s).length = countOcc sep hn s + 1 := by
  fun_induction splitGo sep hn s with
  | case1 rest pos h ih =>
    rw [countOcc_of_find?, h, List.length_cons, ih]
    exact congrArg (· + 1) (Nat.add_comm _ 1)
  | case2 rest h =>
    rw [countOcc_of_find?, h]
    rfl

/-- No piece contains the separator. -/
theorem split_clean (s sep : List α) (hn : sep ≠ []) :
    ∀ p ∈ splitGo sep hn s, ¬ sep <:+: p := by
  fun_induction splitGo sep hn s with
  | case1 rest pos h ih => exact List.forall_mem_cons.mpr ⟨find?_none_iff.mp (find?_take_none hn h), ih⟩
  | case2 rest h => exact List.forall_mem_singleton.mpr (find?_none_iff.mp h)

/-- `replace_all` is one left-to-right pass over non-overlapping occurrences: the
pieces of `split` glued with the replacement.  The replacement text is never
rescanned (it does not occur on the right-hand side as something searched). -/
theorem replace_is_split_glue (s pat rep : List α) (hn : pat ≠ []) :
    replaceAll s pat rep = glue rep (splitGo pat hn s) := by
  unfold replaceAll
  rw [dif_neg hn]
  fun_induction splitGo pat hn s with
  | case1 rest pos h ih =>
    rw [replaceGo_eq, h, glue_cons_of_ne_nil _ _ (splitGo_ne_nil _ _ _), ← ih]
  | case2 rest h =>
    rw [replaceGo_eq, h]
    rfl

/-- `replace_all` is the single left-to-right scan `replaceSpec` (replace at an
occurrence, continue behind the replaced text, never look at the replacement). -/
theorem replace_is_single_pass (s pat rep : List α) (hn : pat ≠ []) :
    replaceAll s pat rep = replaceSpec pat hn rep s := by
  unfold replaceAll
  rw [dif_neg hn]
  fun_induction replaceGo pat hn rep s with
  | case1 rest pos h ih => rw [replaceSpec_of_find?, h, ih]
  | case2 rest h => rw [replaceSpec_of_find?, h]

/-- `replace_all` returns for every input, the empty pattern included (then the
string is unchanged).  Totality itself is the fact that `replaceAll` is a Lean
function: its definition was accepted only with a termination proof. -/
theorem replace_empty_pattern (s rep : List α) : replaceAll s [] rep = s := by
  simp [replaceAll]

/-- Replacing a pattern by itself changes nothing (sanity corollary). -/
theorem replace_self (s pat : List α) (hn : pat ≠ []) : replaceAll s pat pat = s := by
  rw [replace_is_split_glue s pat pat hn, split_join]

/-- `starts_with` is exactly the prefix relation. -/
theorem starts_with_iff_prefix (full b : List α) :
    startsWith full b = true ↔ b <+: full := by
  unfold startsWith
  rw [beq_iff_eq]
  constructor
  · exact fun h => ((find?_spec full b).1 0 h).1
  · intro hp
    cases hf : find? full b with
    | none => exact absurd hp ((find?_spec full b).2 hf 0)
    | some i =>
      cases i with
      | zero => rfl
      | succ i => exact absurd hp (find?_leftmost hf 0 (Nat.succ_pos i))

/-- `join` yields the non-empty elements separated by the infix: no leading,
trailing or doubled infix, and every element's text unaltered. -/
theorem join_spec (xs : List (List α)) (sep : List α) :
    join xs sep = glue sep (xs.filter (· ≠ [])) :=
  joinGo_spec sep true xs

/-- With an empty separator the elements come back verbatim. -/
theorem join_empty_sep (xs : List (List α)) : join xs [] = xs.flatten := by
  rw [join_spec, glue_nil, List.flatten_filter_ne_nil]

/-! Non-vacuity: the hypotheses are met by concrete, non-trivial inputs, and the
model computes what one expects on them. -/
example : splitGo [1, 1] (by decide) [0, 1, 1, 1, 2, 1, 1] = [[0], [1, 2], []] := by decide +kernel
example : replaceAll [1, 1, 1] [1] [1, 1] = [1, 1, 1, 1, 1, 1] := by decide +kernel
example : join [[1], [], [2, 0], []] [9] = [1, 9, 2, 0] := by decide
example : countOcc [1, 1] (by decide) [1, 1, 1, 1, 1] = 2 := by decide +kernel

end NitroVerif.Props.C17
