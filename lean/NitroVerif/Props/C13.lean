import NitroVerif.Model.OptDecl
import NitroVerif.Lemmas.OptRefine

/-!
C13 — declarations stay unambiguous: one meaning per long name and per letter.
-/
namespace NitroVerif.Props.C13
open NitroVerif.Opt

/-- Long names are pairwise distinct across all groups and kinds; every short name is empty or one
character. -/
def DInv (s : DState) : Prop :=
  (s.map (·.name)).Nodup ∧ ∀ x ∈ s, x.short = [] ∨ x.short.length = 1

theorem DInv.set {s : DState} (h : DInv s) {id : Nat} {x y : DObj} (hx : s[id]? = some x)
    (hn : y.name = x.name) (hs : y.short = [] ∨ y.short.length = 1) : DInv (s.set id y) := by
  constructor
  · obtain ⟨hlt, rfl⟩ := List.getElem?_eq_some_iff.mp hx
    have : (s.map (·.name))[id]'(by rw [List.length_map]; exact hlt) = s[id].name := List.getElem_map _
    rw [List.map_set, hn, ← this, List.set_getElem_self]
    exact h.1
  · intro z hz
    rcases List.mem_or_eq_of_mem_set hz with hz | rfl
    · exact h.2 z hz
    · exact hs

theorem declare_found {s : DState} {k : Kind} {g : Nat} {name : Str} {id : Nat}
    (hf : s.findIdx? (fun x => x.kind = k ∧ x.group = g ∧ x.name = name) = some id) :
    declare s k g name = (s, .obj id) := by
  simp only [declare, hf]

/-- The three outcomes of `declare`: the object exists already; the name is taken otherwise; or a new
object is appended under a name that was free. -/
theorem declare_cases (s : DState) (k : Kind) (g : Nat) (name : Str) :
    (∃ id, declare s k g name = (s, .obj id)) ∨ declare s k g name = (s, .dev) ∨
      (s.findIdx? (fun x => x.kind = k ∧ x.group = g ∧ x.name = name) = none ∧
        name ∉ s.map (·.name) ∧
        declare s k g name = (s ++ [⟨k, g, name, [], [], ['A', 'R', 'G']⟩], .obj s.length)) := by
  unfold declare
  split
  · exact Or.inl ⟨_, rfl⟩
  · rename_i hf
    split
    · exact Or.inr (Or.inl rfl)
    · rename_i hany
      refine Or.inr (Or.inr ⟨hf, fun hmem => hany ?_, rfl⟩)
      obtain ⟨x, hx, hxn⟩ := List.mem_map.mp hmem
      exact List.any_eq_true.mpr ⟨x, hx, decide_eq_true hxn⟩

theorem dstep_inv (s : DState) (op : DOp) (h : DInv s) : DInv (dstep s op).1 := by
  cases op with
  | declare k g name =>
    show DInv (declare s k g name).1
    rcases declare_cases s k g name with ⟨id, he⟩ | he | ⟨-, hfresh, he⟩
    · rw [he]; exact h
    · rw [he]; exact h
    · rw [he]
      constructor
      · rw [List.map_append, List.nodup_append]
        refine ⟨h.1, List.pairwise_singleton _ _, fun a ha b hb hab => hfresh ?_⟩
        have hb : b = name := List.mem_singleton.mp hb
        rw [← hb, ← hab]; exact ha
      · intro x hx
        rcases List.mem_append.mp hx with hx | hx
        · exact h.2 x hx
        · exact Or.inl (List.mem_singleton.mp hx ▸ rfl)
  | setShort id sh =>
    simp only [dstep]
    split
    · exact h
    · rename_i x hx
      split
      · exact h
      · split
        · exact h
        · rename_i h2
          exact h.set hx rfl (Or.inr (Decidable.not_not.mp h2))
  | setEnv id e =>
    simp only [dstep]
    split
    · exact h
    · rename_i x hx
      split
      · exact h
      · exact h.set hx rfl (h.2 x (List.mem_of_getElem? hx))
  | setMetavar id m =>
    simp only [dstep]
    split
    · exact h
    · rename_i x hx
      split
      · exact h
      · exact h.set hx rfl (h.2 x (List.mem_of_getElem? hx))
  | newGroup k => exact h
  | moveParser => exact h

theorem drun_inv (ops : List DOp) (s : DState) (h : DInv s) : DInv (drun s ops) := by
  induction ops generalizing s with
  | nil => exact h
  | cons op rest ih => exact ih _ (dstep_inv s op h)

/-- **Every reachable declaration state**: after any sequence of declaration calls (repeated and
conflicting ones included, on any groups, interleaved with moving the parser object) a long name
denotes at most one option across all groups and kinds, and every short name is one character. -/
theorem history_inv (ops : List DOp) : DInv (drun [] ops) :=
  drun_inv ops [] ⟨List.nodup_nil, nofun⟩

/-- Declaring again what `declare` has just returned gives the identical object and changes nothing,
whether the first call found the object or created it. -/
theorem declare_again (s : DState) (k : Kind) (g : Nat) (name : Str) (id : Nat)
    (h : (declare s k g name).2 = .obj id) :
    declare (declare s k g name).1 k g name = ((declare s k g name).1, .obj id) := by
  rcases declare_cases s k g name with ⟨j, he⟩ | he | ⟨hf, -, he⟩
  · rw [he] at h ⊢
    rw [he]
    exact congrArg (Prod.mk s) h
  · rw [he] at h
    cases h
  · rw [he] at h ⊢
    -- the object just created is the first match in the extended state
    rw [← h]
    apply declare_found
    rw [List.findIdx?_append, hf]
    simp

/-- Declaring the same name with the same kind in the same group again returns the identical object
and changes nothing. -/
theorem same_returns_same (s : DState) (k : Kind) (g : Nat) (name : Str) (id : Nat)
    (h : (declare s k g name).2 = .obj id) (hid : id < s.length) :
    declare (declare s k g name).1 k g name = ((declare s k g name).1, .obj id) :=
  declare_again s k g name id h

/-- ... and a fresh declaration followed by the same declaration returns the object just created. -/
theorem redeclare_new (s : DState) (k : Kind) (g : Nat) (name : Str)
    (h : (declare s k g name).2 = .obj s.length) :
    (declare (declare s k g name).1 k g name).2 = .obj s.length :=
  congrArg Prod.snd (declare_again s k g name _ h)

/-- Any other re-declaration of a taken name — another kind, or another group — is a developer error
and changes nothing. -/
theorem other_redeclaration_rejected (s : DState) (k : Kind) (g : Nat) (name : Str)
    (htaken : ∃ x ∈ s, x.name = name) (hother : ∀ x ∈ s, x.name = name → ¬ (x.kind = k ∧ x.group = g)) :
    declare s k g name = (s, .dev) := by
  unfold declare
  have hf : s.findIdx? (fun x => x.kind = k ∧ x.group = g ∧ x.name = name) = none := by
    rw [List.findIdx?_eq_none_iff]
    intro x hx
    exact decide_eq_false fun hc => hother x hx hc.2.2 ⟨hc.1, hc.2.1⟩
  obtain ⟨x, hx, hn⟩ := htaken
  simp only [hf]
  exact if_pos (List.any_eq_true.mpr ⟨x, hx, decide_eq_true hn⟩)

/-- A short name must be exactly one character, and once set it cannot be changed. -/
theorem short_rules (s : DState) (id : Nat) (x : DObj) (sh : Str) (hx : s[id]? = some x) :
    (sh.length ≠ 1 → dstep s (.setShort id sh) = (s, .dev)) ∧
    (x.short ≠ [] → x.short ≠ sh → dstep s (.setShort id sh) = (s, .dev)) ∧
    ((dstep s (.setShort id sh)).2 = .ok →
      ((dstep s (.setShort id sh)).1[id]?.map (·.short)) = some sh ∧ sh.length = 1) := by
  simp only [dstep, hx]
  refine ⟨fun hl => ?_, fun h1 h2 => if_pos ⟨h1, h2⟩, fun hok => ?_⟩
  · by_cases h1 : x.short ≠ [] ∧ x.short ≠ sh
    · rw [if_pos h1]
    · rw [if_neg h1, if_pos hl]
  · split at hok
    · cases hok
    · split at hok
      · cases hok
      · rename_i h1 h2
        rw [if_neg h1, if_neg h2, List.getElem?_set_self (List.getElem?_eq_some_iff.mp hx).1]
        exact ⟨rfl, Decidable.not_not.mp h2⟩

/-- Moving the parser object changes nothing about the declarations. -/
theorem move_neutral (s : DState) : dstep s .moveParser = (s, .ok) := rfl

/-- A parser in which two options share a letter refuses to parse — whatever the arguments. -/
theorem shared_letter_refuses (d : Decl) (env : Env) (argv : List Str) (h : ¬ (shortNames d).Nodup) :
    parse d env argv = .error .dev := by
  apply parse_of_inconsistent
  unfold consistent
  simp [h]

example : (dstep (drun [] [.declare .o 0 ['a'], .setShort 0 ['x']]) (.setShort 0 ['y'])).2 = .dev := by decide
example : (dstep (drun [] [.declare .o 0 ['a']]) (.declare .t 1 ['a'])).2 = .dev := by decide
example : (dstep (drun [] [.declare .o 0 ['a'], .moveParser]) (.declare .o 0 ['a'])).2 = .obj 0 := by decide

/-- The parser's name list goes through the objects kind by kind: the names within one kind are
distinct, and objects of different kinds differ in name. -/
theorem allNames_toDecl_nodup (s : DState) (hinv : (s.map (·.name)).Nodup) (allowed : Option Nat) :
    (allNames (toDecl s allowed)).Nodup := by
  have sub : ∀ k, (((s.filter (·.kind = k)).map (·.name))).Nodup := fun k =>
    hinv.sublist (List.filter_sublist.map _)
  have disj : ∀ k₁ k₂, k₁ ≠ k₂ → ∀ n ∈ (s.filter (·.kind = k₁)).map (·.name),
      ∀ m ∈ (s.filter (·.kind = k₂)).map (·.name), n ≠ m := by
    intro k₁ k₂ hk n hn m hm hnm
    obtain ⟨a, ha, han⟩ := List.mem_map.mp hn
    obtain ⟨b, hb, hbm⟩ := List.mem_map.mp hm
    rw [List.mem_filter, decide_eq_true_eq] at ha hb
    have hab : a = b := eq_of_nodup_map hinv ha.1 hb.1 (han.trans (hnm.trans hbm.symm))
    exact hk (ha.2.symm.trans (hab ▸ hb.2))
  unfold allNames toDecl
  simp only [List.map_map, Function.comp_def]
  rw [List.nodup_append, List.nodup_append]
  refine ⟨⟨sub .o, sub .m, disj .o .m nofun⟩, sub .t, fun n hn => ?_⟩
  rcases List.mem_append.mp hn with hn | hn
  · exact disj .o .t nofun n hn
  · exact disj .m .t nofun n hn

/-- **Every parser the declaration API can build has pairwise distinct long names** — across kinds
and groups, after any history of declaration calls and moves. -/
theorem declared_names_distinct (ops : List DOp) (allowed : Option Nat) :
    (allNames (toDecl (drun [] ops) allowed)).Nodup :=
  allNames_toDecl_nodup _ (history_inv ops).1 allowed

/-- Hence the refinement theorem of the parser (Props/C01) applies to every parser that can be
declared: whatever the declaration history, its `parse` is the specification. -/
theorem declared_parser_refines_spec (ops : List DOp) (allowed : Option Nat) (env : Env) (argv : List Str) :
    parse (toDecl (drun [] ops) allowed) env argv = specParse (toDecl (drun [] ops) allowed) env argv :=
  parse_factor _ (declared_names_distinct ops allowed) env argv

end NitroVerif.Props.C13
