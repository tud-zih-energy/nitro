import NitroVerif.Model.MT
import NitroVerif.Generated.MtSinks

/-!
C09 — thread-safe sinks emit each concurrent record once and contiguously.

For **every schedule** (any list of thread ids, any number of threads, any records): the sink
bodies extracted from the source satisfy mutual exclusion on the stream and the output is an
order-preserving merge of whole records.  The scheduler, `std::mutex` and `lock_guard` are
modelled, not verified; real threads are exercised by the harness (turnstile stream buffer,
ThreadSanitizer) — that part is runtime observation.
-/
namespace NitroVerif.Props.C09
open NitroVerif.MT

/-- sink bodies of the shape: lock guard first, then one insertion, then only flushes -/
def GoodProg (prog : List Instr) : Prop :=
  ∃ tail, prog = .lock :: .write :: tail ∧ ∀ x ∈ tail, x = Instr.flush

/-- the part of the record in progress that the stream has already received -/
def partialOut (s : Sys) : List Nat :=
  match s.holder with
  | none => []
  | some i =>
    match (s.threads i).todo with
    | [] => []
    | r :: _ => if (s.threads i).pc = 1 then r.take (s.threads i).wpos else r

structure Inv (orig : Nat → List Rec) (s : Sys) : Prop where
  past_lock_holds : ∀ i, (s.threads i).pc > 0 → s.holder = some i
  holder_past_lock : ∀ i, s.holder = some i → (s.threads i).pc > 0 ∧ (s.threads i).todo ≠ []
  idle_wpos : ∀ i, (s.threads i).pc = 0 → (s.threads i).wpos = 0
  accounted : ∀ i, ((s.done.filter (·.1 = i)).map (·.2)) ++ (s.threads i).todo = orig i
  output : s.out = (s.done.map (·.2)).flatten ++ partialOut s

theorem inv_init (recs : Nat → List Rec) : Inv recs (init recs) :=
  ⟨fun _ h => absurd h (Nat.lt_irrefl 0), fun _ => nofun, fun _ _ => rfl, fun _ => rfl, rfl⟩

theorem prog_at {prog : List Instr} (h : GoodProg prog) (k : Nat) :
    (k = 0 ∧ prog[k]? = some .lock) ∨ (k = 1 ∧ prog[k]? = some .write) ∨
    (1 < k ∧ (prog[k]? = some .flush ∨ prog[k]? = none)) := by
  obtain ⟨tail, rfl, ht⟩ := h
  match k with
  | 0 => exact .inl ⟨rfl, rfl⟩
  | 1 => exact .inr (.inl ⟨rfl, rfl⟩)
  | k + 2 =>
    refine .inr (.inr ⟨Nat.lt_add_left k Nat.one_lt_two, ?_⟩)
    rw [List.getElem?_cons_succ, List.getElem?_cons_succ]
    cases hk : tail[k]? with
    | none => exact .inr rfl
    | some x => exact .inl (congrArg some (ht x (List.mem_of_getElem? hk)))

/-- What `Inv` says of one thread: `t` is its state, `holds` says that it owns the mutex, `dn` are the
records it has completed. -/
def ThreadOk (mine : List Rec) (t : Thread) (holds : Prop) (dn : List Rec) : Prop :=
  (t.pc > 0 → holds) ∧ (holds → t.pc > 0 ∧ t.todo ≠ []) ∧ (t.pc = 0 → t.wpos = 0) ∧ dn ++ t.todo = mine

theorem inv_iff {orig : Nat → List Rec} {s : Sys} :
    Inv orig s ↔
      (∀ k, ThreadOk (orig k) (s.threads k) (s.holder = some k) ((s.done.filter (·.1 = k)).map (·.2))) ∧
      s.out = (s.done.map (·.2)).flatten ++ partialOut s :=
  ⟨fun h => ⟨fun k => ⟨h.past_lock_holds k, h.holder_past_lock k, h.idle_wpos k, h.accounted k⟩, h.output⟩,
   fun h => ⟨fun k => (h.1 k).1, fun k => (h.1 k).2.1, fun k => (h.1 k).2.2.1, fun k => (h.1 k).2.2.2, h.2⟩⟩

theorem partialOut_idle {s : Sys} (h : s.holder = none) : partialOut s = [] := by
  rw [partialOut, h]

theorem updT_self (f : Nat → Thread) (i : Nat) (t : Thread) : updT f i t i = t := if_pos rfl

theorem updT_other (f : Nat → Thread) {i k : Nat} (t : Thread) (hk : k ≠ i) : updT f i t k = f k := if_neg hk

/-- What `Inv` says of a thread past the lock: the mutex is its own, and the output ends with what of its record
is out. -/
theorem Inv.out_inside {orig : Nat → List Rec} {s : Sys} (h : Inv orig s) {i : Nat} {r : Rec} {rest : List Rec}
    (htodo : (s.threads i).todo = r :: rest) (hpc : (s.threads i).pc > 0) :
    s.holder = some i ∧
    s.out = (s.done.map (·.2)).flatten ++ if (s.threads i).pc = 1 then r.take (s.threads i).wpos else r := by
  have hhold := h.past_lock_holds i hpc
  refine ⟨hhold, h.output.trans ?_⟩
  simp only [partialOut, hhold, htodo]

/-- `Inv` is kept when thread `i` moves and is past the lock afterwards, at position `pc` with `w` bytes handed
over, provided the mutex was free or its own and the output is as in `Inv.out_inside`: no other thread sees a
change. -/
theorem Inv.inside {orig : Nat → List Rec} {s : Sys} (h : Inv orig s) {i : Nat} {r : Rec} {rest : List Rec}
    (htodo : (s.threads i).todo = r :: rest) (hfree : s.holder = none ∨ s.holder = some i) {pc w : Nat}
    (hpc : pc > 0) {o : List Nat} (ho : o = (s.done.map (·.2)).flatten ++ if pc = 1 then r.take w else r) :
    Inv orig ⟨updT s.threads i ⟨(s.threads i).todo, pc, w⟩, some i, o, s.done⟩ := by
  refine inv_iff.mpr ⟨fun k => ?_, by simp only [partialOut, updT_self, htodo, ho]⟩
  by_cases hk : k = i
  · subst hk
    simp only [updT_self]
    exact ⟨fun _ => trivial, fun _ => ⟨hpc, htodo ▸ List.cons_ne_nil r rest⟩, fun h0 => absurd h0 (Nat.ne_of_gt hpc),
      h.accounted k⟩
  · have hmx : some i = some k ↔ s.holder = some k := by
      rcases hfree with hf | hf <;> simp [hf, Ne.symm hk]
    simpa only [updT_other _ _ hk, hmx] using (inv_iff.mp h).1 k

/-- `Inv` is kept when the body ends with the whole record out: the record is done, the guard released. -/
theorem Inv.finish {orig : Nat → List Rec} {s : Sys} (h : Inv orig s) {i : Nat} {r : Rec} {rest : List Rec}
    (htodo : (s.threads i).todo = r :: rest) (hhold : s.holder = some i)
    (ho : s.out = (s.done.map (·.2)).flatten ++ r) :
    Inv orig ⟨updT s.threads i ⟨rest, 0, 0⟩, none, s.out, s.done ++ [(i, r)]⟩ := by
  refine inv_iff.mpr ⟨fun k => ?_, by simp [partialOut, ho]⟩
  have hacc := h.accounted i
  rw [htodo] at hacc
  by_cases hk : k = i
  · subst hk
    simp [ThreadOk, updT_self, List.filter_append, ← hacc]
  · have hmx : none = some k ↔ s.holder = some k := by simp [hhold, Ne.symm hk]
    have hd : (s.done ++ [(i, r)]).filter (·.1 = k) = s.done.filter (·.1 = k) := by
      simp [List.filter_append, Ne.symm hk]
    simpa only [updT_other _ _ hk, hmx, hd] using (inv_iff.mp h).1 k

theorem step_inv {P : Rec → List Instr} (hp : ∀ r, GoodProg (P r)) (orig : Nat → List Rec) (s : Sys) (i : Nat)
    (h : Inv orig s) : Inv orig (step P s i) := by
  simp only [step]
  split
  · exact h
  · rename_i r rest htodo
    rcases prog_at (hp r) (s.threads i).pc with ⟨hpc, hin⟩ | ⟨hpc, hin⟩ | ⟨hpc, hin | hin⟩
    · -- `lock`: the thread takes the mutex if it is free; it has written nothing yet
      simp only [hin]
      split
      · rename_i hfree
        -- `r.take 0 = []`
        refine h.inside htodo (.inl hfree) (Nat.succ_pos _) ?_
        rw [h.output, partialOut_idle hfree, hpc, h.idle_wpos i hpc]
        rfl
      · exact h
    · -- `write`: one more byte of the record, or the end of the insertion
      obtain ⟨hhold, hout⟩ := h.out_inside htodo (hpc ▸ Nat.one_pos)
      simp only [hin, hhold]
      split
      · rename_i b hb
        -- `r.take (wpos + 1) = r.take wpos ++ [b]`
        refine h.inside htodo (.inr hhold) (hpc ▸ Nat.one_pos) ?_
        rw [hout, List.append_assoc, if_pos hpc, if_pos hpc, List.take_add_one, hb]
        rfl
      · rename_i hb
        -- `r.take wpos = r`
        refine h.inside htodo (.inr hhold) (Nat.succ_pos _) ?_
        rw [hout, hpc, List.take_of_length_le (List.getElem?_eq_none_iff.mp hb)]
        rfl
    · -- `flush`: the whole record is out
      obtain ⟨hhold, hout⟩ := h.out_inside htodo (Nat.zero_lt_of_lt hpc)
      simp only [hin, hhold]
      refine h.inside htodo (.inr hhold) (Nat.succ_pos _) ?_
      rw [hout, if_neg (Nat.ne_of_gt hpc), if_neg (by omega)]
    · -- the body ends: the record is complete, the guard is released
      obtain ⟨hhold, hout⟩ := h.out_inside htodo (Nat.zero_lt_of_lt hpc)
      rw [if_neg (Nat.ne_of_gt hpc)] at hout
      simp only [hin, hhold, if_true]
      exact h.finish htodo hhold hout

theorem runs_inv_from {P : Rec → List Instr} (hp : ∀ r, GoodProg (P r)) {orig : Nat → List Rec} {s : Sys}
    (h : Inv orig s) (sched : List Nat) : Inv orig (runs P s sched) := by
  induction sched generalizing s with
  | nil => exact h
  | cons i rest ih => exact ih (step_inv hp orig s i h)

/-- **Every schedule** keeps the invariant. -/
theorem runs_inv {P : Rec → List Instr} (hp : ∀ r, GoodProg (P r)) (recs : Nat → List Rec) (sched : List Nat) :
    Inv recs (runs P (init recs) sched) :=
  runs_inv_from hp (inv_init recs) sched

/-- **Mutual exclusion**: under every schedule at most one thread is past the lock — no two threads
are ever inside the (not thread-safe) stream at the same time. -/
theorem mutex {P : Rec → List Instr} (hp : ∀ r, GoodProg (P r)) (recs : Nat → List Rec) (sched : List Nat)
    (i j : Nat) (hi : ((runs P (init recs) sched).threads i).pc > 0)
    (hj : ((runs P (init recs) sched).threads j).pc > 0) : i = j := by
  have h := runs_inv hp recs sched
  exact Option.some.inj ((h.past_lock_holds i hi).symm.trans (h.past_lock_holds j hj))

/-- **Atomic records**: whenever no sink call is in progress (in particular when all threads are
done) the output is the concatenation of whole records, each record logged so far exactly once, and
the records of every thread appear in that thread's program order: `done` restricted to a thread,
followed by what the thread still has to log, is the thread's original sequence. -/
theorem atomic {P : Rec → List Instr} (hp : ∀ r, GoodProg (P r)) (recs : Nat → List Rec) (sched : List Nat)
    (hidle : (runs P (init recs) sched).holder = none) :
    let s := runs P (init recs) sched
    s.out = (s.done.map (·.2)).flatten ∧
    ∀ i, ((s.done.filter (·.1 = i)).map (·.2)) ++ (s.threads i).todo = recs i := by
  intro s
  have h := runs_inv hp recs sched
  exact ⟨h.output.trans (by rw [partialOut_idle hidle, List.append_nil]), h.accounted⟩

/-- When every thread has finished, nothing is lost or duplicated: per thread, exactly its records. -/
theorem complete {P : Rec → List Instr} (hp : ∀ r, GoodProg (P r)) (recs : Nat → List Rec) (sched : List Nat)
    (hall : ∀ i, ((runs P (init recs) sched).threads i).todo = []) :
    let s := runs P (init recs) sched
    s.out = (s.done.map (·.2)).flatten ∧ ∀ i, (s.done.filter (·.1 = i)).map (·.2) = recs i := by
  intro s
  have h := runs_inv hp recs sched
  have hidle : s.holder = none := by
    cases hh : s.holder with
    | none => rfl
    | some i => exact absurd (hall i) (h.holder_past_lock i hh).2
  obtain ⟨h1, h2⟩ := atomic hp recs sched hidle
  refine ⟨h1, fun i => ?_⟩
  have := h2 i
  rwa [hall i, List.append_nil] at this

-- `GoodProg`, decidably: `goodProg` (in `Model/MT.lean`, so that the driver can evaluate it as well)

theorem goodProg_sound {prog : List Instr} (h : goodProg prog = true) : GoodProg prog := by
  unfold goodProg at h
  split at h
  · rename_i tail
    exact ⟨tail, rfl, fun x hx => by simpa using List.all_eq_true.mp h x hx⟩
  · simp at h

theorem sinkProg_good (progs : List (List Instr)) (h : progs.all goodProg = true) (hne : progs ≠ []) :
    ∀ r, GoodProg (sinkProg progs r) := by
  intro r
  have hmem : sinkProg progs r ∈ progs := by
    unfold sinkProg
    rw [List.getD_eq_getElem?_getD]
    cases hp : progs[sevOf r]? with
    | some p => exact List.mem_of_getElem? hp
    | none =>
      cases progs with
      | nil => exact absurd rfl hne
      | cons p ps => exact List.mem_cons_self
  exact goodProg_sound (List.all_eq_true.mp h _ hmem)

/-- **The sink bodies found in the source** (one per severity, written by the translator on every
run) all have the required shape — the guard is taken first, for every severity, and held until the
body ends — and their mutex is a function-local static (one mutex for all threads and loggers). -/
theorem extracted_sinks_are_good :
    Generated.mtExtracted = true ∧
    Generated.stdoutSinkBySev.length = 6 ∧ Generated.stdoutSinkBySev.all goodProg = true ∧
    Generated.stderrSinkBySev.length = 6 ∧ Generated.stderrSinkBySev.all goodProg = true ∧
    Generated.stdoutMutexStatic = true ∧ Generated.stderrMutexStatic = true := by
  decide

theorem sinkProg_safe (progs : List (List Instr)) (h : progs.all goodProg = true) (hne : progs ≠ [])
    (recs : Nat → List Rec) (sched : List Nat) :
    let s := runs (sinkProg progs) (init recs) sched
    (∀ i j, (s.threads i).pc > 0 → (s.threads j).pc > 0 → i = j) ∧
    (s.holder = none → s.out = (s.done.map (·.2)).flatten ∧
      ∀ i, ((s.done.filter (·.1 = i)).map (·.2)) ++ (s.threads i).todo = recs i) :=
  have hp := sinkProg_good progs h hne
  ⟨mutex hp recs sched, atomic hp recs sched⟩

/-- **`sink::stdout_mt` as extracted**: under every schedule, for records of any severities, no two
threads are past the lock together, and whenever no call is in progress the stream holds whole
records only, each once, every thread's in its own order. -/
theorem stdout_mt_safe (recs : Nat → List Rec) (sched : List Nat) :
    let s := runs (sinkProg Generated.stdoutSinkBySev) (init recs) sched
    (∀ i j, (s.threads i).pc > 0 → (s.threads j).pc > 0 → i = j) ∧
    (s.holder = none → s.out = (s.done.map (·.2)).flatten ∧
      ∀ i, ((s.done.filter (·.1 = i)).map (·.2)) ++ (s.threads i).todo = recs i) :=
  sinkProg_safe _ extracted_sinks_are_good.2.2.1 (by decide) recs sched

/-- **`sink::StdErrThreaded` as extracted**: the same. -/
theorem stderr_mt_safe (recs : Nat → List Rec) (sched : List Nat) :
    let s := runs (sinkProg Generated.stderrSinkBySev) (init recs) sched
    (∀ i j, (s.threads i).pc > 0 → (s.threads j).pc > 0 → i = j) ∧
    (s.holder = none → s.out = (s.done.map (·.2)).flatten ∧
      ∀ i, ((s.done.filter (·.1 = i)).map (·.2)) ++ (s.threads i).todo = recs i) :=
  sinkProg_safe _ extracted_sinks_are_good.2.2.2.2.1 (by decide) recs sched

/-- Without the lock guard the guarantee fails: two threads, one schedule, a torn record. -/
theorem unlocked_counterexample :
    let recs : Nat → List Rec := fun i => if i = 0 then [[1, 1]] else if i = 1 then [[2, 2]] else []
    (runs (fun _ => [.write]) (init recs) [0, 1, 0, 1]).out = [1, 2, 1, 2] := by
  decide

/-- Releasing the guard before the flush fails too: one thread flushes while the other, which owns
the mutex legitimately, is in the middle of its insertion — two threads inside the stream. -/
theorem flush_outside_lock_counterexample :
    let recs : Nat → List Rec := fun i => if i = 0 then [[1]] else if i = 1 then [[2, 2]] else []
    let P : Rec → List Instr := fun _ => [.lock, .write, .unlock, .flush]
    let s := runs P (init recs) [0, 0, 0, 0, 1, 1]
    inStream P s 0 = true ∧ inStream P s 1 = true := by
  decide

/-- Skipping the guard for one severity fails: a fatal record lands inside an info record. -/
theorem severity_dependent_lock_counterexample :
    let recs : Nat → List Rec := fun i => if i = 0 then [[1, 1, 3, 9]] else if i = 1 then [[2, 1, 6, 9]] else []
    let P : Rec → List Instr := sinkProg [[.lock, .write], [.lock, .write], [.lock, .write], [.lock, .write],
      [.lock, .write], [.write]]
    (runs P (init recs) [0, 0, 0, 1, 1, 0, 0, 1, 1]).out = [1, 1, 2, 1, 3, 9, 6, 9] := by
  decide

end NitroVerif.Props.C09
