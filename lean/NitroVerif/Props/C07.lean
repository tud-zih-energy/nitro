import NitroVerif.Lemmas.FV
import NitroVerif.Spec.FV
import NitroVerif.Props.C06

/-!
C07 — fixed_vector behaves as a bounded sequence, including copy, move and assignment.

`elems v` is what forward iteration / indexing shows.  Every theorem relates it to
the plain bounded list of `Spec/FV.lean` (`Ref`), for every capacity and every
operation sequence (no depth bound), when no element operation throws
(`fuel = none`; the throwing cases are C06's).
-/
namespace NitroVerif.Props.C07
open NitroVerif.FV

/-- One operation refines the bounded list (interior range insert excluded). -/
theorem apply_refines (v : Vec) (op : Op) (h : VInv v)
    (hop : match op with | .range pos _ => pos = v.size | _ => True) :
    (elems (apply v op none).1, (apply v op none).2) = Ref.apply v.cap (elems v) op := by
  -- `v` is its live elements `E` followed by its free slots `F`; where `Ref` raises, so does `v`
  -- by C06's raise lemmas, and elsewhere `E` is split at the position and the closed forms apply
  obtain ⟨E, F, rfl⟩ := exists_ofLists h
  rw [elems_ofLists, cap_ofLists]
  have happ : ∀ x, (elems (append1 (ofLists E F) x none).1, (append1 (ofLists E F) x none).2) =
      if E.length ≥ E.length + F.length then (E, Res.raised) else (E ++ [.val x], .ok) := by
    intro x
    cases F with
    | nil => simp [append1]
    | cons y F => rw [append1_ofLists, elems_ofLists, if_neg (by simp)]
  have hrange : ∀ xs, (elems (rangeInsert (ofLists E F) E.length xs none).1,
        (rangeInsert (ofLists E F) E.length xs none).2) =
      (E ++ xs.take (E.length + F.length - E.length),
        if xs.length ≤ E.length + F.length - E.length then Res.ok else .raised) := by
    intro xs
    have := rangeGo_ofLists E [] F xs
    rw [List.append_nil] at this
    rw [Nat.add_sub_cancel_left, rangeInsert, size_ofLists, if_neg (Nat.lt_irrefl _), this,
      elems_ofLists]
    simp
  cases op with
  | emplaceBack x => rw [apply, emplaceBack_none]; exact happ x
  | insertC x => exact happ x
  | insertM x => exact happ x
  | pushBack x => exact happ x
  | range pos xs => cases hop; simpa [apply, Ref.apply] using hrange (xs.map .val)
  | pushRange xs => simpa [apply, Ref.apply] using hrange (xs.map .val)
  | emplaceAt pos x =>
    simp only [Ref.apply]
    split
    · rename_i hg
      rw [C06.emplace_oob_or_full_raises _ _ _ _ hg, elems_ofLists]
    · rename_i hg
      obtain ⟨A, B, rfl, rfl⟩ := exists_split_of_le (Nat.le_of_not_lt fun hp => hg (.inl hp))
      cases F with
      | nil => exact absurd (.inr (Nat.le_refl _)) hg
      | cons y F => rw [apply, emplaceAt_ofLists, elems_ofLists, List.take_left, List.drop_left]
  | erase pos =>
    simp only [Ref.apply]
    split
    · rename_i hg
      rw [C06.erase_oob_raises _ _ _ hg, elems_ofLists]
    · rename_i hg
      obtain ⟨A, a, B, rfl, rfl⟩ := exists_split_of_lt (Nat.lt_of_not_le hg)
      rw [apply, erase_ofLists]
      simp
  | pop =>
    simp only [Ref.apply]
    split
    · rename_i hg
      rw [C06.pop_empty_raises _ _ hg, elems_ofLists]
    · rcases List.eq_nil_or_concat E with rfl | ⟨E, a, rfl⟩
      · exact absurd rfl ‹_›
      · rw [List.concat_eq_append, apply, popBack_ofLists, elems_ofLists, List.dropLast_concat]
  | atKey key =>
    simp only [Ref.apply, apply]
    by_cases hk : key < E.length
    · rw [atKey_eq h hk, index_ofLists hk, elems_ofLists, List.getElem?_eq_getElem hk]
    · rw [atKey_oob (Nat.le_of_not_lt hk), elems_ofLists,
        List.getElem?_eq_none (Nat.le_of_not_lt hk)]
  | index key =>
    simp only [Ref.apply, apply]
    by_cases hk : key < E.length
    · rw [size_ofLists, if_pos hk, index_ofLists hk, elems_ofLists, List.getElem?_eq_getElem hk]
    · rw [size_ofLists, if_neg hk, elems_ofLists, List.getElem?_eq_none (Nat.le_of_not_lt hk)]

/-- Aliasing arguments: `v.emplace(pos, v[k])` etc. insert the value `v[k]` had when the call was
made, exactly as the bounded list does. -/
theorem applyA_refines (v : Vec) (a : AOp) (h : VInv v)
    (hop : match a with | .plain (.range pos _) => pos = v.size | _ => True) :
    (elems (applyA v a none).1, (applyA v a none).2) = Ref.applyA v.cap (elems v) a := by
  unfold applyA Ref.applyA
  cases hr : resolveL (elems v) a with
  | none => rfl
  | some op =>
    refine apply_refines v op h ?_
    cases op with
    | range pos xs => cases resolveL_range hr; exact hop
    | _ => trivial

/-- Histories on one vector (no element exceptions). -/
def run (v : Vec) : List Op → Vec
  | [] => v
  | op :: rest => run (apply v op none).1 rest

/-- `range` is used as an append only (position = current size) along the history. -/
def AppendOnly (v : Vec) : List Op → Prop
  | [] => True
  | op :: rest =>
    (match op with | .range pos _ => pos = v.size | _ => True) ∧ AppendOnly (apply v op none).1 rest

/-- **C07, refinement for every operation sequence**: after any history, what the
vector shows is what the bounded list shows after the same history. -/
theorem run_refines (v : Vec) (ops : List Op) (h : VInv v) (ha : AppendOnly v ops) :
    elems (run v ops) = Ref.run v.cap (elems v) ops ∧ (run v ops).cap = v.cap := by
  induction ops generalizing v with
  | nil => simp [run, Ref.run]
  | cons op rest ih =>
    have hs := C06.apply_safe v op none h
    have e : elems (apply v op none).1 = (Ref.apply v.cap (elems v) op).1 :=
      congrArg Prod.fst (apply_refines v op h ha.1)
    have := ih _ hs.1 ha.2
    rw [hs.2.2, e] at this
    exact this

/-- `fixed_vector(capacity, iterable)` / `fixed_vector(initializer_list)`: the
contents are the range when it fits, otherwise the constructor raises. -/
theorem fromIter_spec (cap : Nat) (xs : List Slot) :
    fromIter cap xs none =
      if xs.length ≤ cap then (some (ofLists xs (List.replicate (cap - xs.length) .stale)), .ok)
      else (none, .raised) := by
  rw [fromIter, rangeInsert, if_neg (Nat.not_lt_zero _), fresh_eq_ofLists, ← List.append_nil [],
    ← List.length_nil, rangeGo_ofLists]
  by_cases hx : xs.length ≤ cap
  · simp [hx, List.take_of_length_le]
  · simp [hx]

/-- Copy construction yields an equal container of the same capacity.  (Independence
is structural in the model — vectors are values — and is checked on the C++ side
by writing to one and reading the other.) -/
theorem copy_equal (src : Vec) (h : VInv src) :
    ∃ c, copyOf src none = (some c, .ok) ∧ elems c = elems src ∧ c.cap = src.cap ∧
      c.size = src.size := by
  obtain ⟨E, F, rfl⟩ := exists_ofLists h
  refine ⟨_, by rw [copyOf, fromIter_spec, elems_ofLists, cap_ofLists, if_pos (Nat.le_add_right _ _)],
    ?_, ?_, ?_⟩ <;> simp

/-- Move construction transfers the whole sequence; the source is left empty (and
usable, with its capacity). -/
theorem move_transfers (src : Vec) :
    elems (moveOf src).1 = elems src ∧ (moveOf src).1.cap = src.cap ∧
    elems (moveOf src).2 = [] ∧ (moveOf src).2.cap = src.cap := by
  simp [moveOf, elems, fresh]

/-- Move assignment transfers the whole sequence to the target. -/
theorem move_assign_transfers (dst src : Vec) :
    elems (moveAssign dst src).1 = elems src ∧ (moveAssign dst src).1.cap = src.cap := by
  simp [moveAssign]

/-- Copy assignment makes the target equal to the source. -/
theorem copy_assign_equal (dst src : Vec) (h : VInv src) :
    (copyAssign dst src none).2 = .ok ∧ elems (copyAssign dst src none).1 = elems src ∧
    (copyAssign dst src none).1.cap = src.cap := by
  obtain ⟨c, hc, he, hcap, _⟩ := copy_equal src h
  simp [copyAssign, hc, he, hcap]

/-- Assignment from a list replaces the contents (and the capacity) by the list. -/
theorem list_assign_replaces (dst : Vec) (xs : List Slot) :
    (listAssign dst xs none).2 = .ok ∧ elems (listAssign dst xs none).1 = xs ∧
    (listAssign dst xs none).1.cap = xs.length := by
  simp [listAssign, fromList, fromIter_spec]

/-- Reverse iteration visits the live elements in reverse order. -/
theorem reverse_is_reverse (v : Vec) : relems v = (elems v).reverse := rfl

/-- Forward iteration visits exactly `size` elements. -/
theorem elems_length (v : Vec) (h : VInv v) : (elems v).length = v.size := by
  obtain ⟨E, F, rfl⟩ := exists_ofLists h
  rw [elems_ofLists, size_ofLists]

theorem ref_mem_apply {cap : Nat} {l : List Slot} {op : Op} {s : Slot}
    (hs : s ∈ (Ref.apply cap l op).1) : s ∈ l ∨ ∃ x, s = .val x := by
  have append : ∀ x, s ∈ (if l.length ≥ cap then (l, Res.raised) else (l ++ [.val x], .ok)).1 →
      s ∈ l ∨ ∃ x, s = .val x := by
    intro x hs
    split at hs
    · exact .inl hs
    · exact (List.mem_append.1 hs).imp id fun h => ⟨x, List.mem_singleton.1 h⟩
  have range : ∀ xs : List Nat, s ∈ l ++ (xs.map Slot.val).take (cap - l.length) →
      s ∈ l ∨ ∃ x, s = .val x := by
    intro xs hs
    refine (List.mem_append.1 hs).imp id fun h => ?_
    obtain ⟨x, _, rfl⟩ := List.mem_map.1 (List.mem_of_mem_take h)
    exact ⟨x, rfl⟩
  cases op with
  | emplaceBack x => exact append x hs
  | insertC x => exact append x hs
  | insertM x => exact append x hs
  | pushBack x => exact append x hs
  | range pos xs => exact range xs hs
  | pushRange xs => exact range xs hs
  | emplaceAt pos x =>
    simp only [Ref.apply] at hs
    split at hs
    · exact .inl hs
    · rcases List.mem_append.1 hs with h | h
      · exact .inl (List.mem_of_mem_take h)
      · exact (List.mem_cons.1 h).elim (fun h => .inr ⟨x, h⟩) fun h => .inl (List.mem_of_mem_drop h)
  | erase pos =>
    simp only [Ref.apply] at hs
    split at hs
    · exact .inl hs
    · exact .inl ((List.mem_append.1 hs).elim List.mem_of_mem_take List.mem_of_mem_drop)
  | pop =>
    simp only [Ref.apply] at hs
    split at hs
    · exact .inl hs
    · rw [List.dropLast_eq_take] at hs
      exact .inl (List.mem_of_mem_take hs)
  | atKey key => exact .inl hs
  | index key => exact .inl hs

/-- "Shows the caller only elements the caller put there": if the live range holds
only caller-provided elements, it still does after any operation of the alphabet
(no element exception). -/
theorem shown_elements_are_callers (v : Vec) (op : Op) (h : VInv v)
    (hop : match op with | .range pos _ => pos = v.size | _ => True)
    (hf : ∀ s ∈ elems v, s ≠ Slot.stale) :
    ∀ s ∈ elems (apply v op none).1, s ≠ Slot.stale := by
  intro s hs
  have e : elems (apply v op none).1 = (Ref.apply v.cap (elems v) op).1 := by
    rw [← apply_refines v op h hop]
  rcases ref_mem_apply (e ▸ hs) with h | ⟨x, rfl⟩
  · exact hf s h
  · nofun

/-! Non-vacuity. -/
example : VInv (fresh 3) ∧ AppendOnly (fresh 3) [.pushBack 1, .range 1 [2], .emplaceAt 0 9, .erase 1] := by
  refine ⟨inv_fresh 3, ?_⟩
  simp [AppendOnly, apply, append1, tick, wr, fresh]
example : elems (run (fresh 3) [.pushBack 1, .pushBack 2, .emplaceAt 0 9, .erase 1]) = [.val 9, .val 2] := by
  decide

end NitroVerif.Props.C07
