import NitroVerif.Model.Own
import NitroVerif.Lemmas.Own

/-!
C18 — owning wrappers destroy exactly once and copy deeply.

`quaint_ptr`: for every history of create / move-assign (incl. self) / reset /
push-into-vector / pop / swap over a pool of pointers, every object ever created
is, at every moment, either owned by exactly one pointer and not destroyed, or
owned by none and destroyed exactly once — by the destructor of its creation
type.  When all pointers are gone every object has been destroyed exactly once.
`optional`: live optionals never share storage, operations on one never change
what another reads, assigning an empty optional empties the target.

Memory-level facts (no leak, no double free in the C++ objects) are observed by
the harness (instance counters, ASan, LSan), not proved.
-/
namespace NitroVerif.Props.C18
open NitroVerif.Own

def owners (s : QS) (id : Nat) : Nat := s.cells.count (some id)
def deaths (s : QS) (id : Nat) : Nat := (s.dead.map (·.1)).count id

/-- Every object that exists is owned by exactly one pointer or has been destroyed
exactly once (never both, never twice, never neither = leak); objects that do not
exist are not referenced; every destructor ran as the object's creation type. -/
def QInv (s : QS) : Prop :=
  (∀ id, owners s id + deaths s id = ind (id < s.types.length)) ∧
  (∀ p ∈ s.dead, s.types[p.1]? = some p.2)

theorem release_cells (s : QS) (i : Nat) : (s.release i).cells = s.cells := by
  unfold QS.release; split <;> rfl

theorem release_types (s : QS) (i : Nat) : (s.release i).types = s.types := by
  unfold QS.release; split <;> rfl

theorem deaths_release (s : QS) (i id : Nat) :
    deaths (s.release i) id = deaths s id + ind (s.cells[i]? = some (some id)) := by
  unfold QS.release
  split
  · rename_i id0 hc
    rw [hc, ind_some, ind_some]
    simp only [deaths, List.map_append, List.map_cons, List.map_nil, List.count_append,
      count_singleton_ind]
  · rename_i hc
    rw [ind_false (hc id)]; rfl

theorem QInv.owned_lt {s : QS} (h : QInv s) {i id : Nat} (hc : s.cells[i]? = some (some id)) :
    id < s.types.length := by
  have := h.1 id
  have : 0 < owners s id := count_pos_of_getElem? hc
  exact ind_pos (by omega)

theorem release_dead_typed {s : QS} (h : QInv s) (i : Nat) :
    ∀ p ∈ (s.release i).dead, s.types[p.1]? = some p.2 := by
  unfold QS.release
  split
  · rename_i id hc
    intro p hp
    rcases List.mem_append.mp hp with hp | hp
    · exact h.2 p hp
    · rw [List.mem_singleton.mp hp, List.getElem?_eq_getElem (h.owned_lt hc)]; rfl
  · exact h.2

/-- Cell `i` lets go of what it owns and takes `x`: the object let go passes from the owners' side
of the balance to the deaths' side. -/
theorem release_set (s : QS) (i : Nat) (x : Option Nat) (hi : i < s.cells.length) (id : Nat) :
    (s.cells.set i x).count (some id) + deaths (s.release i) id =
      owners s id + deaths s id + ind (x = some id) := by
  have := count_set s.cells i x (some id) hi
  rw [deaths_release, owners]
  omega

theorem qinv_init (pool : Nat) : QInv (QS.init pool) := by
  constructor
  · intro id
    show (List.replicate pool none).count (some id) + 0 = ind (id < 0)
    rw [ind_false (Nat.not_lt_zero id), List.count_replicate]; rfl
  · exact nofun

theorem step_inv (pool : Nat) (s : QS) (op : QOp) (h : QInv s) : QInv (s.step pool op) := by
  fun_cases QS.step pool s op with
  | case1 i ty hi s1 =>  -- make
    simp only [s1, release_cells]
    constructor
    · intro id
      show (s.cells.set i (some s.types.length)).count (some id) + deaths (s.release i) id =
        ind (id < (s.types ++ [ty]).length)
      rw [release_set s i _ hi, h.1 id, List.length_append, List.length_singleton, ind_lt_succ,
        ind_some]
    · intro p hp
      have := release_dead_typed h i p hp
      rw [List.getElem?_append_left (List.getElem?_eq_some_iff.mp this).1]; exact this
  | case4 i j hij hb s1 =>  -- mov
    simp only [s1, release_cells, release_types]
    refine ⟨?_, release_dead_typed h i⟩
    intro id
    show ((s.cells.set i (s.cells[j]?.getD none)).set j none).count (some id) +
      deaths (s.release i) id = ind (id < s.types.length)
    -- the target cell takes what the source cell holds, then the source cell is emptied
    have e1 := release_set s i (s.cells[j]?.getD none) hb.1 id
    have e2 := count_set (s.cells.set i (s.cells[j]?.getD none)) j none (some id)
      (by rw [List.length_set]; exact hb.2)
    rw [List.getElem?_set_ne hij, ind_none] at e2
    rw [ind_getD_none] at e1
    have := h.1 id
    clear hij hb  -- `omega` would split on `i ≠ j`
    omega
  | case6 i hi s1 =>  -- reset
    simp only [s1, release_cells, release_types]
    refine ⟨?_, release_dead_typed h i⟩
    intro id
    show (s.cells.set i none).count (some id) + deaths (s.release i) id = ind (id < s.types.length)
    rw [release_set s i _ hi, ind_none, h.1 id]; rfl
  | case8 i hi =>  -- push
    refine ⟨?_, h.2⟩
    intro id
    show (s.cells.set i none ++ [s.cells[i]?.getD none]).count (some id) + deaths s id =
      ind (id < s.types.length)
    rw [List.count_append, count_singleton_ind, ind_getD_none, ← h.1 id, owners]
    have e := count_set s.cells i none (some id) hi
    rw [ind_none] at e
    omega
  | case10 hp s1 =>  -- pop
    simp only [s1, release_cells, release_types]
    refine ⟨?_, release_dead_typed h _⟩
    intro id
    show s.cells.dropLast.count (some id) + deaths (s.release (s.cells.length - 1)) id =
      ind (id < s.types.length)
    rw [deaths_release, ← h.1 id, owners]
    have e := count_dropLast s.cells (some id)
    omega
  | case12 i j hb =>  -- swap
    refine ⟨?_, h.2⟩
    intro id
    show ((s.cells.set i (s.cells[j]?.getD none)).set j (s.cells[i]?.getD none)).count (some id) +
      deaths s id = ind (id < s.types.length)
    rw [← h.1 id, owners]
    have e1 := count_set s.cells i (s.cells[j]?.getD none) (some id) hb.1
    have e2 := count_set (s.cells.set i (s.cells[j]?.getD none)) j (s.cells[i]?.getD none) (some id)
      (by rw [List.length_set]; exact hb.2)
    -- cell `j` of the intermediate list holds what cell `j` held, also when `i = j`
    have hj : ind ((s.cells.set i (s.cells[j]?.getD none))[j]? = some (some id)) =
        ind (s.cells[j]? = some (some id)) := by
      by_cases hij : i = j
      · rw [hij, List.getElem?_set_self hb.2, ind_some, ind_getD_none]
      · rw [List.getElem?_set_ne hij]
    rw [hj] at e2
    rw [ind_getD_none] at e1 e2
    clear hj hb  -- of no use to `omega`
    omega
  | _ => exact h  -- out of range, a move to itself, a failed creation: nothing happens

/-- A creation whose constructor throws creates nothing, destroys nothing and leaves every owner as it was. -/
theorem failed_creation_neutral (pool : Nat) (s : QS) (i ty : Nat) : s.step pool (.makeFails i ty) = s := rfl

theorem run_inv (pool : Nat) (ops : List QOp) (s : QS) (h : QInv s) : QInv (QS.run pool s ops) := by
  induction ops generalizing s with
  | nil => exact h
  | cons op rest ih => exact ih _ (step_inv pool s op h)

/-- **Every reachable state** of every history satisfies the ownership invariant. -/
theorem history_inv (pool : Nat) (ops : List QOp) : QInv (QS.run pool (QS.init pool) ops) :=
  run_inv pool ops _ (qinv_init pool)

/-- At no time has an object been destroyed more than once, and an object that is
still owned has not been destroyed. -/
theorem never_twice (s : QS) (h : QInv s) (id : Nat) :
    deaths s id ≤ 1 ∧ owners s id ≤ 1 ∧ (owners s id = 1 → deaths s id = 0) := by
  have := h.1 id
  have := ind_le_one (id < s.types.length)
  omega

/-- A moved-from or reset pointer is empty. -/
theorem moved_from_empty (pool : Nat) (s : QS) (i j : Nat) (hij : i ≠ j)
    (hi : i < s.cells.length) (hj : j < s.cells.length) :
    (s.step pool (.mov i j)).cells[j]? = some none ∧ (s.step pool (.reset i)).cells[i]? = some none := by
  simp only [QS.step, if_neg hij, if_pos (And.intro hi hj), if_pos hi, release_cells]
  exact ⟨List.getElem?_set_self (by rw [List.length_set]; exact hj), List.getElem?_set_self hi⟩

theorem finish_spec (s : QS) (n : Nat) (h : QInv s) (hn : s.cells.length ≤ n) :
    QInv (QS.finish s n) ∧ (QS.finish s n).cells = [] ∧ (QS.finish s n).types = s.types := by
  fun_induction QS.finish s n with
  | case1 s => exact ⟨h, List.length_eq_zero_iff.mp (Nat.le_zero.mp hn), rfl⟩
  | case2 s n hp s1 ih =>
    -- one round is a `pop` with no pool to protect
    have hstep := step_inv 0 s .pop h
    simp only [QS.step, if_pos hp] at hstep
    obtain ⟨hq, hc, ht⟩ := ih hstep (by simp only [s1, release_cells, List.length_dropLast]; omega)
    exact ⟨hq, hc, ht.trans (release_types s _)⟩
  | case3 s n hp => exact ⟨h, List.length_eq_zero_iff.mp (by omega), rfl⟩

/-- No cell is left when all pointer objects are gone, so the balance reads `deaths = [created]`. -/
theorem deaths_finish (s : QS) (n : Nat) (h : QInv s) (hn : s.cells.length ≤ n) :
    (∀ id, deaths (QS.finish s n) id = ind (id < s.types.length)) ∧
    (∀ p ∈ (QS.finish s n).dead, s.types[p.1]? = some p.2) := by
  obtain ⟨he, hc, ht⟩ := finish_spec s n h hn
  constructor
  · intro id
    have := he.1 id
    rwa [owners, hc, List.count_nil, Nat.zero_add, ht] at this
  · rw [← ht]; exact he.2

/-- **Exactly once, by the right destructor**: after any history, when the last owner has
gone away, every object ever created has been destroyed exactly once, and each
destructor ran as the object's creation type. -/
theorem exactly_once (pool : Nat) (ops : List QOp) (s e : QS)
    (hs : s = QS.run pool (QS.init pool) ops) (he : e = QS.finish s s.cells.length) :
    (∀ id, id < s.types.length → deaths e id = 1) ∧ (∀ id, s.types.length ≤ id → deaths e id = 0) ∧
    (∀ p ∈ e.dead, s.types[p.1]? = some p.2) := by
  obtain ⟨hd, ht⟩ := deaths_finish s _ (hs ▸ history_inv pool ops) (Nat.le_refl _)
  rw [he]
  exact ⟨fun id hid => by rw [hd, ind_true hid],
    fun id hid => by rw [hd, ind_false (Nat.not_lt.mpr hid)], ht⟩

/-- Live optionals own pairwise distinct storage, inside the heap. -/
def OInv (s : OS) : Prop :=
  ∀ a, s.cells.count (some a) ≤ ind (a < s.heap.length)

theorem OInv.held_lt {s : OS} (h : OInv s) {k a : Nat} (hc : s.cells[k]? = some (some a)) :
    a < s.heap.length :=
  ind_pos (Nat.lt_of_lt_of_le (count_pos_of_getElem? hc) (h a))

theorem OInv.alloc {s : OS} (h : OInv s) (i : Nat) (v : Int) :
    OInv ⟨s.cells.set i (some s.heap.length), s.heap ++ [v]⟩ := by
  intro a
  show (s.cells.set i (some s.heap.length)).count (some a) ≤ ind (a < (s.heap ++ [v]).length)
  rw [List.length_append, List.length_singleton, ind_lt_succ, ← ind_some]
  have := count_set_le s.cells i (some s.heap.length) (some a)
  have := h a
  omega

theorem OInv.empty {s : OS} (h : OInv s) (i : Nat) : OInv { s with cells := s.cells.set i none } := by
  intro a
  have := count_set_le s.cells i none (some a)
  rw [ind_none] at this
  exact Nat.le_trans this (h a)

theorem ostep_inv (s : OS) (op : OOp) (h : OInv s) : OInv (s.step op) := by
  fun_cases OS.step s op with
  | case1 i v => exact h.alloc i v  -- setValue
  | case2 i _ v => exact h.alloc i v  -- copy of a value
  | case3 i => exact h.empty i  -- copy of an empty optional
  | case4 i => exact h.empty i  -- clear

theorem orun_inv (ops : List OOp) (s : OS) (h : OInv s) : OInv (OS.run s ops) := by
  induction ops generalizing s with
  | nil => exact h
  | cons op rest ih => exact ih _ (ostep_inv s op h)

theorem ohistory_inv (n : Nat) (ops : List OOp) : OInv (OS.run ⟨List.replicate n none, []⟩ ops) := by
  apply orun_inv
  intro a
  rw [List.count_replicate]
  exact Nat.zero_le _

theorem read_congr {s s' : OS} (h : OInv s) {k : Nat} (hc : s'.cells[k]? = s.cells[k]?)
    (hh : ∀ a, a < s.heap.length → s'.heap[a]? = s.heap[a]?) : s'.read k = s.read k := by
  unfold OS.read
  rw [hc]
  cases hk : s.cells[k]? with
  | none => rfl
  | some c =>
    cases c with
    | none => rfl
    | some a => exact hh a (h.held_lt hk)

/-- **Deep copy / independence**: an operation on optional `i` never changes what any
other optional reads (copying or assigning never aliases the source). -/
theorem independent (s : OS) (op : OOp) (k : Nat) (h : OInv s)
    (hk : k ≠ (match op with | .setValue i _ => i | .copy i _ => i | .clear i => i)) :
    (s.step op).read k = s.read k := by
  cases op with
  | setValue i v =>
    exact read_congr h (List.getElem?_set_ne (Ne.symm hk)) fun _ ha => List.getElem?_append_left ha
  | copy i j =>
    simp only [OS.step]
    split
    · exact read_congr h (List.getElem?_set_ne (Ne.symm hk)) fun _ ha => List.getElem?_append_left ha
    · exact read_congr h (List.getElem?_set_ne (Ne.symm hk)) fun _ _ => rfl
  | clear i => exact read_congr h (List.getElem?_set_ne (Ne.symm hk)) fun _ _ => rfl

/-- What the target reads afterwards: the assigned value, the source's value, or nothing —
assigning an empty optional empties the target; reading an empty one raises (`none`). -/
theorem target_reads (s : OS) (i : Nat) (hi : i < s.cells.length) (h : OInv s) :
    (∀ v, (s.step (.setValue i v)).read i = some v) ∧
    (∀ j, (s.step (.copy i j)).read i = s.read j) ∧
    (s.step (.clear i)).read i = none := by
  have halloc : ∀ v, OS.read ⟨s.cells.set i (some s.heap.length), s.heap ++ [v]⟩ i = some v := by
    intro v
    simp only [OS.read, List.getElem?_set_self hi, List.getElem?_concat_length]
  have hempty : OS.read { s with cells := s.cells.set i none } i = none := by
    simp only [OS.read, List.getElem?_set_self hi]
  refine ⟨halloc, fun j => ?_, hempty⟩
  simp only [OS.step]
  split
  · rename_i v hv; rw [hv]; exact halloc v
  · rename_i hv; rw [hv]; exact hempty

/-- Two engaged optionals never point to the same storage. -/
theorem no_alias (s : OS) (h : OInv s) (i j : Nat) (a : Nat) (hij : i ≠ j)
    (hi : s.cells[i]? = some (some a)) (hj : s.cells[j]? = some (some a)) : False := by
  -- emptying cell `i` still leaves cell `j` holding `a`: the count was at least 2
  have e := count_set s.cells i none (some a) (List.getElem?_eq_some_iff.mp hi).1
  rw [ind_true hi, ind_none] at e
  have : 0 < (s.cells.set i none).count (some a) :=
    count_pos_of_getElem? ((List.getElem?_set_ne hij).trans hj)
  have := h a
  have := ind_le_one (a < s.heap.length)
  omega

/-! Non-vacuity. -/
example : (QS.run 2 (QS.init 2) [.make 0 7, .push 0, .make 0 8, .mov 1 0, .mov 1 1, .pop]).dead = [(0, 7)] := by
  decide
example : (OS.run ⟨[none, none], []⟩ [.setValue 0 5, .copy 1 0, .setValue 0 6]).read 1 = some 5 := by decide

end NitroVerif.Props.C18
