import NitroVerif.Model.Own
import NitroVerif.Lemmas.Own

/-!
C19 — environment and dlopen wrappers report faithfully and keep libraries mapped.

`env::get` by cases; for the loader, an invariant over every history of
open / load / copy / assign / destroy operations (failed opens and lookups included): a
library handle is closed exactly once, after — and only after — the last object
sharing it has been destroyed, in whatever order objects are destroyed.

`dlopen`/`dlclose`/`getenv`/`shared_ptr` themselves are modelled, not verified;
the harness counts the real calls through linker `--wrap`.
-/
namespace NitroVerif.Props.C19
open NitroVerif.Own

/-- A set variable is returned exactly — also when set to the empty string. -/
theorem get_set (env : String → Option String) (name dflt v : String) (h : env name = some v) :
    envGet env name dflt = v ∧ envGetNoDefault env name = some v := by
  simp [envGet, envGetNoDefault, h]

/-- The default is returned only when the variable is unset; the no-default form raises then. -/
theorem get_unset (env : String → Option String) (name dflt : String) (h : env name = none) :
    envGet env name dflt = dflt ∧ envGetNoDefault env name = none := by
  simp [envGet, envGetNoDefault, h]

theorem get_empty_is_not_unset (env : String → Option String) (name dflt : String)
    (h : env name = some "") : envGet env name dflt = "" := (get_set env name dflt "" h).1

theorem default_only_if_unset (env : String → Option String) (name dflt : String)
    (h : envGet env name dflt ≠ dflt) : ∃ v, env name = some v ∧ envGet env name dflt = v := by
  unfold envGet at *
  cases hv : env name with
  | none => simp [hv] at h
  | some v => exact ⟨v, rfl, by simp⟩

def users (s : DS) (h : Nat) : Nat := s.objs.count (some h)
def closed (s : DS) (h : Nat) : Nat := s.closes.count h

/-- The shared_ptr use count is the number of objects sharing the handle; an opened
handle has been closed exactly once iff nothing shares it any more; a handle that
was never opened is neither shared nor closed. -/
def DInv (s : DS) : Prop :=
  ∀ h, s.rc[h]?.getD 0 = users s h ∧ closed s h + ind (0 < users s h) = ind (h < s.rc.length)

theorem dinv_init : DInv DS.init := by
  intro h
  simp [DS.init, users, closed]

theorem DInv.rc_eq {s : DS} (hs : DInv s) (h : Nat) : s.rc[h]?.getD 0 = s.objs.count (some h) :=
  (hs h).1

theorem DInv.closes_eq {s : DS} (hs : DInv s) (h : Nat) :
    s.closes.count h + ind (0 < s.objs.count (some h)) = ind (h < s.rc.length) :=
  (hs h).2

theorem DInv.shared_lt {s : DS} (hs : DInv s) {o h : Nat} (ho : s.objs[o]? = some (some h)) :
    h < s.rc.length := by
  have := hs.closes_eq h
  rw [ind_true (count_pos_of_getElem? ho)] at this
  exact ind_pos (by omega)

theorem share_inv (s : DS) (o : Nat) (hs : DInv s) : DInv (s.shareStep o) := by
  fun_cases DS.shareStep s o with
  | case1 h0 ho =>
    intro h
    have b1 := hs.rc_eq h
    have b2 := hs.closes_eq h
    show (s.rc.set h0 (s.rc[h0]?.getD 0 + 1))[h]?.getD 0 = (s.objs ++ [some h0]).count (some h) ∧
      s.closes.count h + ind (0 < (s.objs ++ [some h0]).count (some h)) =
        ind (h < (s.rc.set h0 (s.rc[h0]?.getD 0 + 1)).length)
    rw [List.count_append, count_singleton_ind, ind_some, List.length_set]
    by_cases he : h0 = h
    · subst he
      rw [ind_true (count_pos_of_getElem? ho)] at b2
      rw [List.getElem?_set_self (hs.shared_lt ho), ind_true rfl, ind_true (Nat.succ_pos _)]
      exact ⟨congrArg (· + 1) b1, b2⟩
    · rw [List.getElem?_set_ne he, ind_false he]
      exact ⟨b1, b2⟩
  | case2 => exact hs

theorem destroy_inv (s : DS) (o : Nat) (hs : DInv s) : DInv (s.destroyStep o) := by
  fun_cases DS.destroyStep s o with
  | case1 h0 ho =>
    intro h
    have b1 := hs.rc_eq h
    have b2 := hs.closes_eq h
    have e := count_set s.objs o none (some h) (List.getElem?_eq_some_iff.mp ho).1
    rw [ho, ind_none, ind_some, ind_some] at e
    show (s.rc.set h0 (s.rc[h0]?.getD 0 - 1))[h]?.getD 0 = (s.objs.set o none).count (some h) ∧
      (if s.rc[h0]?.getD 0 = 1 then s.closes ++ [h0] else s.closes).count h +
        ind (0 < (s.objs.set o none).count (some h)) =
        ind (h < (s.rc.set h0 (s.rc[h0]?.getD 0 - 1)).length)
    rw [List.length_set]
    by_cases he : h0 = h
    · subst he
      rw [List.getElem?_set_self (hs.shared_lt ho)]
      rw [ind_true rfl] at e
      rw [ind_true (count_pos_of_getElem? ho)] at b2
      refine ⟨Nat.sub_eq_of_eq_add (b1.trans e.symm), ?_⟩
      -- the last share closes the library
      split
      · rw [List.count_append, count_singleton_ind, ind_true rfl, ind_false (by omega)]
        exact b2
      · rw [ind_true (by omega)]
        exact b2
    · rw [List.getElem?_set_ne he]
      rw [ind_false he] at e
      -- closing `h0` or not, the closes of `h` are the same
      rw [apply_ite (List.count h), List.count_append, count_singleton_ind, ind_false he,
        Nat.add_zero, ite_self, show (s.objs.set o none).count (some h) = s.objs.count (some h) from e]
      exact ⟨b1, b2⟩
  | case2 => exact hs

theorem DInv.of_users {s : DS} (hs : DInv s) {objs : List (Option Nat)}
    (hu : ∀ h, objs.count (some h) = s.objs.count (some h)) : DInv { s with objs := objs } := by
  intro h
  have := hs h
  rw [users, ← hu h] at this
  exact this

theorem assign_inv (s : DS) (o p : Nat) (hs : DInv s) : DInv (s.assignStep o p) := by
  unfold DS.assignStep
  split
  · rename_i h0 hp' ho hp
    have ho' : o < s.objs.length := (List.getElem?_eq_some_iff.mp ho).1
    have hobjs : ((s.shareStep p).destroyStep o).objs = s.objs.set o none ++ [some hp'] := by
      simp only [DS.shareStep, hp, DS.destroyStep, List.getElem?_append_left ho', ho,
        List.set_append_left _ _ ho']
    -- the new share moves from the end into the emptied slot `o`: every handle has as many
    -- sharers as before the move
    refine (destroy_inv _ o (share_inv s p hs)).of_users fun h => ?_
    rw [hobjs, List.set_append_left _ _ (by rwa [List.length_set]), List.set_set,
      List.dropLast_concat, List.count_append, count_singleton_ind]
    have e1 := count_set s.objs o none (some h) ho'
    have e2 := count_set s.objs o (some hp') (some h) ho'
    rw [ind_none] at e1
    omega
  · exact hs

theorem getD_concat_ne (l : List Nat) (x : Nat) {k : Nat} (hk : k ≠ l.length) :
    (l ++ [x])[k]?.getD 0 = l[k]?.getD 0 := by
  by_cases h : k < l.length
  · rw [List.getElem?_append_left h]
  · rw [List.getElem?_eq_none (by rw [List.length_append, List.length_singleton]; omega),
      List.getElem?_eq_none (Nat.le_of_not_lt h)]

theorem dstep_inv (s : DS) (op : DOp) (hs : DInv s) : DInv (s.step op) := by
  cases op with
  | openOk =>
    intro h
    have b1 := hs.rc_eq h
    have b2 := hs.closes_eq h
    show (s.rc ++ [1])[h]?.getD 0 = (s.objs ++ [some s.rc.length]).count (some h) ∧
      s.closes.count h + ind (0 < (s.objs ++ [some s.rc.length]).count (some h)) =
        ind (h < (s.rc ++ [1]).length)
    rw [List.count_append, count_singleton_ind, ind_some, List.length_append, List.length_singleton,
      ind_lt_succ]
    by_cases he : s.rc.length = h
    · subst he
      -- the new handle was not shared and not closed before
      have hz : s.objs.count (some s.rc.length) = 0 := by
        rw [← b1, List.getElem?_eq_none (Nat.le_refl _)]; rfl
      rw [hz, ind_false (Nat.lt_irrefl _)] at b2
      rw [List.getElem?_concat_length, ind_true rfl, ind_true (Nat.succ_pos _), hz]
      exact ⟨rfl, by omega⟩
    · rw [getD_concat_ne _ _ (Ne.symm he), ind_false he]
      exact ⟨b1, b2⟩
  | openFail => exact hs
  | loadOk o => exact share_inv s o hs
  | copy o => exact share_inv s o hs
  | loadFail o => exact hs
  | destroy o => exact destroy_inv s o hs
  | assign o p => exact assign_inv s o p hs

theorem drun_inv (ops : List DOp) (s : DS) (hs : DInv s) : DInv (DS.run s ops) := by
  induction ops generalizing s with
  | nil => exact hs
  | cons op rest ih => exact ih _ (dstep_inv s op hs)

/-- **Every history** keeps the invariant. -/
theorem dhistory_inv (ops : List DOp) : DInv (DS.run DS.init ops) :=
  drun_inv ops _ dinv_init

theorem DInv.close_discipline {s : DS} (hs : DInv s) (h : Nat) :
    closed s h ≤ 1 ∧ (0 < users s h → closed s h = 0) ∧
    (h < s.rc.length → users s h = 0 → closed s h = 1) ∧ (s.rc.length ≤ h → closed s h = 0) := by
  have e := (hs h).2
  have := ind_le_one (h < s.rc.length)
  refine ⟨by omega, fun hp => ?_, fun hl hu => ?_, fun hl => ?_⟩
  · rw [ind_true hp] at e; omega
  · rw [ind_true hl, ind_false (Nat.not_lt.mpr (Nat.le_of_eq hu))] at e; omega
  · rw [ind_false (Nat.not_lt.mpr hl)] at e; omega

/-- A library is closed at most once; never while an object sharing it is alive; and
exactly once when the last of them is gone — after any history, any destruction order. -/
theorem close_discipline (ops : List DOp) (h : Nat) (s : DS) (hs : s = DS.run DS.init ops) :
    closed s h ≤ 1 ∧ (0 < users s h → closed s h = 0) ∧
    (h < s.rc.length → users s h = 0 → closed s h = 1) ∧ (s.rc.length ≤ h → closed s h = 0) :=
  (hs ▸ dhistory_inv ops : DInv s).close_discipline h

/-- A failed open or a failed symbol lookup changes nothing. -/
theorem failed_ops_neutral (s : DS) (o : Nat) :
    s.step .openFail = s ∧ s.step (.loadFail o) = s := ⟨rfl, rfl⟩

/-! Non-vacuity. -/
example : (DS.run DS.init [.openOk, .loadOk 0, .destroy 0, .copy 1, .destroy 1]).closes = [] := by decide
example : (DS.run DS.init [.openOk, .loadOk 0, .destroy 0, .copy 1, .destroy 1, .destroy 2]).closes = [0] := by
  decide
-- symA = symB between two libraries: A's library closes as soon as nothing else shares it, B's stays open
example : (DS.run DS.init [.openOk, .openOk, .loadOk 0, .loadOk 1, .destroy 0, .assign 2 3]).closes = [0] := by
  decide

end NitroVerif.Props.C19
