import NitroVerif.Lemmas.OptRefine
import NitroVerif.Lemmas.OptSpell

/-!
C02 — every spelling of a command line parses back to the assignment it spells.
-/
namespace NitroVerif.Props.C02
open NitroVerif.Opt

/-- The interpretation of an item list depends only on: the values given to each value-taking option
in command-line order, the number of positive and negative occurrences of each toggle, and the
positionals in order.  Hence any interleaving of the items, any choice of long/short/`=` form per
occurrence and any bundling of toggle letters that leaves these unchanged parses to the same result. -/
theorem interp_depends_only_on_assignment (d : Decl) (env : Env) (a b : List Item)
    (hv : ∀ n, cliValues n a = cliValues n b)
    (hp : ∀ t ∈ d.togs, posCount t a = posCount t b ∧ negCount t a = negCount t b)
    (hpos : positionalsOf a = positionalsOf b) : interp d env a = interp d env b :=
  interp_congr d env a b (fun o _ => hv o.name) (fun m _ => hv m.name) hp hpos

/-- **Any two command lines that spell the same assignment parse alike**: if both have an explanation
and the explanations agree on the values per option (in order), the occurrence counts per toggle and
the positionals (in order), `parse` returns the same outcome — whatever the spelling per occurrence
(`--name v`, `--name=v`, `-s v`, `-s=v`), the bundling of letters or the interleaving of items. -/
theorem same_assignment_same_outcome (d : Decl) (hn : (allNames d).Nodup) (env : Env)
    (argv₁ argv₂ : List Str) (a b : List Item)
    (h₁ : explain d argv₁ = some a) (h₂ : explain d argv₂ = some b)
    (hv : ∀ n, cliValues n a = cliValues n b)
    (hp : ∀ t ∈ d.togs, posCount t a = posCount t b ∧ negCount t a = negCount t b)
    (hpos : positionalsOf a = positionalsOf b) : parse d env argv₁ = parse d env argv₂ := by
  cases hc : consistent d with
  | false => rw [parse_of_inconsistent hc, parse_of_inconsistent hc]
  | true =>
    rw [parse_of_explain d hn hc env argv₁ a h₁, parse_of_explain d hn hc env argv₂ b h₂]
    exact interp_depends_only_on_assignment d env a b hv hp hpos

/-- **Values arrive byte for byte**: whatever the string `v` is, if the explanation of the command
line gives `v` (once) to option `o`, the result reports `v` for `o`, marked provided. -/
theorem parsed_value_verbatim (d : Decl) (hn : (allNames d).Nodup) (env : Env) (argv : List Str)
    (items : List Item) (r : Result) (o : OptD) (v : Str) (ho : o ∈ d.opts)
    (hex : explain d argv = some items) (hcv : cliValues o.name items = [v])
    (h : parse d env argv = .ok r) : (o.name, some v) ∈ r.opts ∧ o.name ∈ r.provided := by
  obtain ⟨_, _, hO, _, _⟩ := interp_ok_inv d env items r (interp_of_parse_ok d hn hex h)
  obtain ⟨v', p, hiv, hmem, hprov⟩ := hO o ho
  rw [interpOpt_cli env hcv] at hiv
  cases hiv
  exact ⟨hmem, hprov rfl⟩

/-- **Multi-option values keep command-line order.** -/
theorem parsed_multi_in_order (d : Decl) (hn : (allNames d).Nodup) (env : Env) (argv : List Str)
    (items : List Item) (r : Result) (m : MulD) (v : Str) (vs : List Str) (hm : m ∈ d.muls)
    (hex : explain d argv = some items) (hcv : cliValues m.name items = v :: vs)
    (h : parse d env argv = .ok r) : (m.name, v :: vs) ∈ r.muls := by
  obtain ⟨_, _, _, hM, _⟩ := interp_ok_inv d env items r (interp_of_parse_ok d hn hex h)
  obtain ⟨vs', p, hiv, hmem, _⟩ := hM m hm
  rw [interpMul_cli env hcv] at hiv
  cases hiv
  exact hmem

/-- **Positionals keep command-line order.** -/
theorem parsed_positionals (d : Decl) (hn : (allNames d).Nodup) (env : Env) (argv : List Str)
    (items : List Item) (r : Result) (hex : explain d argv = some items) (h : parse d env argv = .ok r) :
    r.pos = positionalsOf items :=
  (interp_ok_inv d env items r (interp_of_parse_ok d hn hex h)).2.1

/-- **Every spelling parses to the assignment it spells.**  For every consistent declaration with
distinct names, every environment and every *canonical* item list — option-like items that name
declared options of the right kind by their long name or their letter, with `--name v`, `--name=v`,
`-s v`, `-s=v`, `--toggle`, `--no-toggle`, bundles `-abc` of toggle letters, in any order and any
interleaving; positionals that are value tokens before the cut; anything at all after `--` (or after
the first positional in greedy mode) — the tokens `render` writes for it parse to exactly the
interpretation of that item list. -/
theorem every_spelling_parses_as_meant (d : Decl) (hn : (allNames d).Nodup) (hc : consistent d = true)
    (env : Env) (items : List Item) (h : CanonGo d false items) :
    parse d env (render d items) = interp d env items :=
  parse_of_explain d hn hc env _ items (explainGo_render_canon d ⟨hn, hc⟩ items false h)

/-- two canonical spellings of the same assignment parse alike -/
theorem spellings_agree (d : Decl) (hn : (allNames d).Nodup) (hc : consistent d = true) (env : Env)
    (a b : List Item) (ha : CanonGo d false a) (hb : CanonGo d false b)
    (hv : ∀ n, cliValues n a = cliValues n b)
    (hp : ∀ t ∈ d.togs, posCount t a = posCount t b ∧ negCount t a = negCount t b)
    (hpos : positionalsOf a = positionalsOf b) :
    parse d env (render d a) = parse d env (render d b) := by
  rw [every_spelling_parses_as_meant d hn hc env a ha, every_spelling_parses_as_meant d hn hc env b hb]
  exact interp_depends_only_on_assignment d env a b hv hp hpos

/-- the hypotheses are satisfiable: `-o f -vv x -- -y` for an option `out`/`o` and a toggle `verbose`/`v` -/
example : CanonGo ⟨[⟨['o','u','t'], some 'o', none, none, true⟩], [], [⟨['v','e','r'], some 'v', none, 0, false⟩], none, false⟩
    false [.optSep ['o','u','t'] true ['f'], .togShort ['v', 'v'], .pos ['x'], .sep, .pos ['-', 'y']] := by
  refine ⟨⟨by decide, ⟨⟨'o', ['u', 't'], rfl, by decide, by decide⟩, by decide⟩,
    fun _ => ⟨'o', by decide, by decide, by decide⟩, by decide⟩, ?_⟩
  refine ⟨⟨⟨'v', ['v'], rfl, by decide, by decide⟩, by decide, by decide⟩, ?_⟩
  refine ⟨by decide, ?_⟩
  exact ⟨⟨_, rfl⟩, trivial⟩

end NitroVerif.Props.C02
