import NitroVerif.Lemmas.UsageForced

/-!
The width clause for the whole option section: the lines of the concatenated entries are the lines of the single
entries (every entry ends its last line), so what `fpCores` says about one wrapped text holds for every line of
the section; then the lines of a group (`GroupOk`, `group_lines`) and of the complete usage text (`usage_lines`).
-/
namespace NitroVerif.Usage

theorem lineLens_ne_nil (col : Nat) (s : Str) : lineLens col s ≠ [] := by
  fun_induction lineLens col s with
  | case1 col => exact List.cons_ne_nil _ _
  | case2 col cs ih => exact List.cons_ne_nil _ _
  | case3 col c cs hc ih => exact ih

/-- lines of a concatenation: the last (unfinished) line of the first part is continued by the second -/
theorem lineLens_append_of_snoc (col : Nat) (a b : Str) (ls : List Nat) (last : Nat)
    (h : lineLens col a = ls ++ [last]) : lineLens col (a ++ b) = ls ++ lineLens last b := by
  fun_induction lineLens col a generalizing ls with
  | case1 col =>
    obtain ⟨rfl, h⟩ := List.append_inj' (s₁ := []) (t₁ := [col]) h rfl
    cases h
    rfl
  | case2 col cs ih =>
    -- a line ends here: it is the head of `ls`, which is not empty because `lineLens 0 cs` is not
    cases ls with
    | nil => exact absurd (List.cons.inj h).2 (lineLens_ne_nil 0 cs)
    | cons x xs =>
      obtain ⟨rfl, hxs⟩ := List.cons.inj h
      rw [List.cons_append, lineLens_nl_cons, ih xs hxs]
      rfl
  | case3 col c cs hc ih =>
    rw [List.cons_append, lineLens, if_neg hc]
    exact ih ls h

theorem lineLens_flatten {α : Type} (render : α → Str) (lines : α → List Nat) (xs : List α)
    (h : ∀ x ∈ xs, lineLens 0 (render x) = lines x ++ [0]) :
    lineLens 0 (xs.map render).flatten = xs.flatMap lines ++ [0] := by
  induction xs with
  | nil => rfl
  | cons x xs ih =>
    obtain ⟨hx, hxs⟩ := List.forall_mem_cons.mp h
    rw [List.map_cons, List.flatten_cons, List.flatMap_cons, lineLens_append_of_snoc 0 _ _ _ 0 hx, ih hxs,
      List.append_assoc]

/-- the ghost of one entry: per line its length and its core -/
def entryCores (e : Entry) : List (Nat × Nat) :=
  if entryText e ≠ [] then formatPaddedCores (entryLeft e).length (entryText e) 40 80
  else [((entryLeft e).length, (entryLeft e).length)]

theorem entry_lines (e : Entry) (hl : '\n' ∉ entryLeft e) (ht : '\n' ∉ entryText e) :
    lineLens 0 (formatEntry e) = (entryCores e).map (·.1) ++ [0] := by
  rw [lineLens_formatEntry e hl, entryCores]
  split
  · rw [formatPaddedCores_lens _ _ _ _ ht]
  · rfl

theorem section_lines (es : List Entry) (h : ∀ e ∈ es, '\n' ∉ entryLeft e ∧ '\n' ∉ entryText e) :
    lineLens 0 ((es.map formatEntry).flatten) = (es.flatMap entryCores).map (·.1) ++ [0] := by
  rw [List.map_flatMap]
  exact lineLens_flatten formatEntry _ es fun e he => entry_lines e (h e he).1 (h e he).2

theorem entryCores_width (e : Entry) :
    ∀ p ∈ entryCores e, p.2 ≤ p.1 ∧ p.2 ≤ max (entryLeft e).length 80 := by
  intro p hp
  unfold entryCores at hp
  split at hp
  · have := formatPaddedCores_width (entryLeft e).length (entryText e) 40 80 (by omega) (by omega) p hp
    exact ⟨formatPaddedCores_core_le _ _ _ _ p hp, by omega⟩
  · rw [List.mem_singleton] at hp
    subst hp
    exact ⟨Nat.le_refl _, Nat.le_max_left ..⟩

theorem sectionCores_width (es : List Entry) :
    ∀ p ∈ es.flatMap entryCores, p.2 ≤ p.1 ∧ ∃ e ∈ es, p.2 ≤ max (entryLeft e).length 80 := by
  intro p hp
  obtain ⟨e, he, hpe⟩ := List.mem_flatMap.mp hp
  exact ⟨(entryCores_width e p hpe).1, e, he, (entryCores_width e p hpe).2⟩

/-- the lines a group contributes (nothing for a group without entries) -/
def groupLinesOf (g : Group) : List Nat :=
  if g.entries = [] then []
  else [0, g.name.length + 1] ++ (if g.description ≠ [] then [0, g.description.length, 0] else []) ++
    (g.entries.flatMap entryCores).map (·.1)

/-- what `group_lines` needs of a group -/
def GroupOk (g : Group) : Prop :=
  g.entries ≠ [] → '\n' ∉ g.name ∧ '\n' ∉ g.description ∧ ∀ e ∈ g.entries, '\n' ∉ entryLeft e ∧ '\n' ∉ entryText e

theorem group_lines (g : Group) (h : GroupOk g) : lineLens 0 (groupUsage g) = groupLinesOf g ++ [0] := by
  by_cases hne : g.entries = []
  · rw [groupUsage, groupLinesOf, if_pos hne, if_pos hne]
    rfl
  · obtain ⟨hn, hd, he⟩ := h hne
    have hname : '\n' ∉ g.name ++ [':'] := by simp [hn]
    rw [groupUsage, groupLinesOf, if_neg hne, if_neg hne]
    -- the text line by line, then `lineLens` reads it off
    split
    · have hform : ['\n'] ++ g.name ++ ":\n".toList ++ (['\n'] ++ g.description ++ "\n\n".toList) ++
            (g.entries.map formatEntry).flatten =
          '\n' :: ((g.name ++ [':']) ++ '\n' :: '\n' :: (g.description ++ '\n' :: '\n' ::
            (g.entries.map formatEntry).flatten)) := by simp
      rw [hform, lineLens_nl_cons, lineLens_line _ _ _ hname, lineLens_nl_cons, lineLens_line _ _ _ hd,
        lineLens_nl_cons, section_lines _ he]
      simp
    · have hform : ['\n'] ++ g.name ++ ":\n".toList ++ [] ++ (g.entries.map formatEntry).flatten =
          '\n' :: ((g.name ++ [':']) ++ '\n' :: (g.entries.map formatEntry).flatten) := by simp
      rw [hform, lineLens_nl_cons, lineLens_line _ _ _ hname, section_lines _ he]
      simp

theorem usage_lines (d : UDecl) (t o m l : List Entry) (h : ∀ g ∈ d.groups, GroupOk g) :
    lineLens 0 (usage d t o m l) =
      lineLens 0 (synopsisPara d t o m l) ++ [0] ++
        (if d.about ≠ [] then lineLens 0 d.about ++ [0] else []) ++ d.groups.flatMap groupLinesOf ++ [0] := by
  have hgroups := lineLens_flatten groupUsage groupLinesOf d.groups fun g hg => group_lines g (h g hg)
  rw [usage_eq]
  by_cases ha : d.about ≠ []
  · rw [if_pos ha, if_pos ha, List.append_assoc, lineLens_append_nlnl, lineLens_append_nlnl, hgroups]
    simp
  · rw [if_neg ha, if_neg ha, List.append_nil, List.append_nil, lineLens_append_nlnl, hgroups]
    simp

end NitroVerif.Usage
