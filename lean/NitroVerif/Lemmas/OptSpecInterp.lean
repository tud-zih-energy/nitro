import NitroVerif.Spec.Opt
import NitroVerif.Lemmas.OptNames

/-!
The specification's `interp` by itself: `mapAll` over a declaration list, what the per-option functions
read from the environment (`envNonEmpty`, `parseEnvWord`, `splitSemi`), when `interp` succeeds and with
what result, when it fails, and what of an item list it reads.
-/
namespace NitroVerif.Opt

theorem mapAll_eq_ok_iff {α β : Type} [Inhabited β] {f : α → Except Err β} {l : List α} {ys : List β} :
    mapAll f l = .ok ys ↔ ∃ g : α → β, (∀ x ∈ l, f x = .ok (g x)) ∧ ys = l.map g := by
  constructor
  · intro h
    refine ⟨fun x => match f x with | .ok y => y | .error _ => default, ?_⟩
    induction l generalizing ys with
    | nil => cases h; exact ⟨nofun, rfl⟩
    | cons a as ih =>
      unfold mapAll at h
      cases hfa : f a with
      | error e => rw [hfa] at h; cases h
      | ok y =>
        rw [hfa] at h
        cases hrest : mapAll f as with
        | error e => rw [hrest] at h; cases h
        | ok ys' =>
          rw [hrest] at h
          cases h
          obtain ⟨h1, h2⟩ := ih hrest
          exact ⟨List.forall_mem_cons.mpr ⟨by simp only [hfa], h1⟩, by rw [List.map_cons, hfa, ← h2]⟩
  · rintro ⟨g, hg, rfl⟩
    induction l with
    | nil => rfl
    | cons x xs ih =>
      rw [mapAll, hg x List.mem_cons_self, ih fun y hy => hg y (List.mem_cons_of_mem _ hy)]
      rfl

theorem forall_ok_or_exists_err {α β : Type} [Inhabited β] (f : α → Except Err β) (l : List α) :
    (∃ g : α → β, ∀ x ∈ l, f x = .ok (g x)) ∨ ∃ x ∈ l, ∃ e, f x = .error e := by
  by_cases h : ∃ x ∈ l, ∃ e, f x = .error e
  · exact .inr h
  · refine .inl ⟨fun x => match f x with | .ok y => y | .error _ => default, fun x hx => ?_⟩
    cases hfx : f x with
    | ok y => simp only [hfx]
    | error e => exact absurd ⟨x, hx, e, hfx⟩ h

theorem mapAll_congr {α β : Type} {f g : α → Except Err β} {l : List α} (h : ∀ x ∈ l, f x = g x) :
    mapAll f l = mapAll g l := by
  induction l with
  | nil => rfl
  | cons x xs ih =>
    rw [mapAll, mapAll, h x List.mem_cons_self, ih fun y hy => h y (List.mem_cons_of_mem _ hy)]

theorem zip_map_self {α β : Type} (l : List α) (h : α → β) : l.zip (l.map h) = l.map fun x => (x, h x) := by
  have := List.zip_map' (f := id) (g := h) (l := l)
  rwa [List.map_id] at this

theorem envNonEmpty_eq (env : Env) (name : Option Str) :
    envNonEmpty env name = if envOf env name != [] then some (envOf env name) else none := by
  cases name with
  | none => rfl
  | some n =>
    have h1 : envOf env (some n) = (env n).getD [] := rfl
    rw [h1]
    simp only [envNonEmpty]
    cases env n with
    | none => simp
    | some v =>
      by_cases hv : v = []
      · simp [hv]
      · simp [hv]

theorem envOf_of_envNonEmpty_none (env : Env) (name : Option Str) (h : envNonEmpty env name = none) :
    envOf env name = [] := by
  rw [envNonEmpty_eq] at h
  split at h
  · cases h
  · rename_i hne; simpa using hne

theorem envOf_of_envNonEmpty_some (env : Env) (name : Option Str) (e : Str) (h : envNonEmpty env name = some e) :
    envOf env name = e ∧ e ≠ [] := by
  rw [envNonEmpty_eq] at h
  split at h
  · rename_i hne; cases h; exact ⟨rfl, by simpa using hne⟩
  · cases h

theorem parseEnvWord_iff (w : Str) :
    (parseEnvWord w = some true ↔ w ∈ truthy) ∧
    (parseEnvWord w = some false ↔ w ∉ truthy ∧ w ∈ falsy) ∧
    (parseEnvWord w = none ↔ w ∉ truthy ∧ w ∉ falsy) := by
  unfold parseEnvWord
  by_cases h1 : w ∈ truthy
  · simp [h1]
  · by_cases h2 : w ∈ falsy <;> simp [h1, h2]

theorem splitSemiGo_ne_nil (s cur : Str) (h : s ≠ [] ∨ cur ≠ []) : splitSemiGo s cur ≠ [] := by
  induction s generalizing cur with
  | nil =>
    rcases h with h | h
    · exact absurd rfl h
    · simp [splitSemiGo, h]
  | cons c cs ih =>
    unfold splitSemiGo
    by_cases hc : c = ';'
    · simp [hc]
    · simp only [hc, if_false]
      exact ih (c :: cur) (Or.inr (by simp))

theorem splitSemi_ne_nil (s : Str) (h : s ≠ []) : splitSemi s ≠ [] :=
  splitSemiGo_ne_nil s [] (Or.inl h)

theorem interpOpt_cli (env : Env) {items : List Item} {o : OptD} {v : Str} (h : cliValues o.name items = [v]) :
    interpOpt env items o = .ok (some v, true) := by
  unfold interpOpt; rw [h]

theorem interpMul_cli (env : Env) {items : List Item} {m : MulD} {v : Str} {vs : List Str}
    (h : cliValues m.name items = v :: vs) : interpMul env items m = .ok (v :: vs, true) := by
  unfold interpMul; rw [h]

theorem interpOpt_userErr {env : Env} {items : List Item} {o : OptD} : UserErr (interpOpt env items o) := by
  unfold interpOpt
  split
  · exact userErr_user
  · exact userErr_ok _
  · split
    · exact userErr_ok _
    · split
      · exact userErr_ok _
      · exact .ite (userErr_ok _) userErr_user

theorem interpMul_userErr {env : Env} {items : List Item} {m : MulD} : UserErr (interpMul env items m) := by
  unfold interpMul
  split
  · exact userErr_ok _
  · split
    · exact userErr_ok _
    · split
      · exact userErr_ok _
      · exact .ite (userErr_ok _) userErr_user

section interpTog
variable {env : Env} {items : List Item} {t : TogD}

theorem interpTog_pos (hn : negCount t items = 0) (hp : posCount t items > 0) :
    interpTog env items t = .ok (posCount t items, true) := by
  simp [interpTog, hn, hp]

theorem interpTog_neg (hn : negCount t items > 0) (hr : t.reversible = true) (hp : posCount t items = 0) :
    interpTog env items t = .ok (0, true) := by
  simp [interpTog, hn, hr, hp]

theorem interpTog_notReversible (hn : negCount t items > 0) (hr : t.reversible = false) :
    interpTog env items t = .error .user := by
  simp [interpTog, hn, hr]

theorem interpTog_conflict (hn : negCount t items > 0) (hp : posCount t items > 0) :
    interpTog env items t = .error .user := by
  cases hr : t.reversible <;> simp [interpTog, hn, hp, hr]

theorem interpTog_absent (hn : negCount t items = 0) (hp : posCount t items = 0) :
    interpTog env items t = match envNonEmpty env t.env with
      | some e => (match parseEnvWord e with
        | some b => .ok (if b then 1 else 0, true)
        | none => .error .user)
      | none => .ok (t.dflt, false) := by
  simp only [interpTog, hn, hp, Nat.lt_irrefl, decide_false, Bool.false_and, Bool.false_eq_true, if_false]
  rfl

theorem interpTog_userErr : UserErr (interpTog env items t) := by
  refine .ite userErr_user (.ite userErr_user (.ite (userErr_ok _) (.ite (userErr_ok _) ?_)))
  cases envNonEmpty env t.env with
  | none => exact userErr_ok _
  | some w =>
    dsimp only
    cases parseEnvWord w with
    | none => exact userErr_user
    | some b => exact userErr_ok _

end interpTog

theorem interp_eq_ok_iff {d : Decl} {env : Env} {items : List Item} {r : Result} :
    interp d env items = .ok r ↔
      tooMany d (positionalsOf items).length = false ∧
      ∃ (vo : OptD → Option Str × Bool) (vm : MulD → List Str × Bool) (vt : TogD → Int × Bool),
        (∀ o ∈ d.opts, interpOpt env items o = .ok (vo o)) ∧
        (∀ m ∈ d.muls, interpMul env items m = .ok (vm m)) ∧
        (∀ t ∈ d.togs, interpTog env items t = .ok (vt t)) ∧
        r = { togs := d.togs.map fun t => (t.name, (vt t).1),
              opts := d.opts.map fun o => (o.name, (vo o).1),
              muls := d.muls.map fun m => (m.name, (vm m).1),
              pos := positionalsOf items,
              provided := (d.opts.filter fun o => (vo o).2).map (·.name) ++
                          (d.muls.filter fun m => (vm m).2).map (·.name) ++
                          (d.togs.filter fun t => (vt t).2).map (·.name) } := by
  unfold interp
  simp only
  cases tooMany d (positionalsOf items).length with
  | true => exact ⟨nofun, fun h => nomatch h.1⟩
  | false =>
    simp only [Bool.false_eq_true, if_false, true_and]
    constructor
    · intro h
      split at h
      · rename_i os ms ts hO hM hT
        obtain ⟨vo, ho, rfl⟩ := mapAll_eq_ok_iff.mp hO
        obtain ⟨vm, hm, rfl⟩ := mapAll_eq_ok_iff.mp hM
        obtain ⟨vt, ht, rfl⟩ := mapAll_eq_ok_iff.mp hT
        cases h
        exact ⟨vo, vm, vt, ho, hm, ht, by
          simp only [zip_map_self, List.map_map, List.filter_map, Function.comp_def]⟩
      · cases h
    · rintro ⟨vo, vm, vt, ho, hm, ht, rfl⟩
      rw [mapAll_eq_ok_iff.mpr ⟨vo, ho, rfl⟩, mapAll_eq_ok_iff.mpr ⟨vm, hm, rfl⟩, mapAll_eq_ok_iff.mpr ⟨vt, ht, rfl⟩]
      simp only [zip_map_self, List.map_map, List.filter_map, Function.comp_def]

theorem interp_ok_inv (d : Decl) (env : Env) (items : List Item) (r : Result) (h : interp d env items = .ok r) :
    tooMany d (positionalsOf items).length = false ∧ r.pos = positionalsOf items ∧
    (∀ o ∈ d.opts, ∃ v p, interpOpt env items o = .ok (v, p) ∧ (o.name, v) ∈ r.opts ∧ (p = true → o.name ∈ r.provided)) ∧
    (∀ m ∈ d.muls, ∃ vs p, interpMul env items m = .ok (vs, p) ∧ (m.name, vs) ∈ r.muls ∧ (p = true → m.name ∈ r.provided)) ∧
    (∀ t ∈ d.togs, ∃ c p, interpTog env items t = .ok (c, p) ∧ (t.name, c) ∈ r.togs ∧ (p = true → t.name ∈ r.provided)) := by
  obtain ⟨hroom, vo, vm, vt, ho, hm, ht, rfl⟩ := interp_eq_ok_iff.mp h
  refine ⟨hroom, rfl, fun o hmem => ⟨_, _, ho o hmem, ?_, fun hp => ?_⟩,
    fun m hmem => ⟨_, _, hm m hmem, ?_, fun hp => ?_⟩, fun t hmem => ⟨_, _, ht t hmem, ?_, fun hp => ?_⟩⟩
  · exact List.mem_map.mpr ⟨o, hmem, rfl⟩
  · exact List.mem_append_left _ (List.mem_append_left _ (List.mem_map_of_mem (List.mem_filter.mpr ⟨hmem, hp⟩)))
  · exact List.mem_map.mpr ⟨m, hmem, rfl⟩
  · exact List.mem_append_left _ (List.mem_append_right _ (List.mem_map_of_mem (List.mem_filter.mpr ⟨hmem, hp⟩)))
  · exact List.mem_map.mpr ⟨t, hmem, rfl⟩
  · exact List.mem_append_right _ (List.mem_map_of_mem (List.mem_filter.mpr ⟨hmem, hp⟩))

/-- For a declaration with pairwise distinct names: an option is listed as provided **iff** the
specification ranks its value from the command line or the environment. -/
theorem interp_provided_iff (d : Decl) (hn : (allNames d).Nodup) (env : Env) (items : List Item) (r : Result)
    (h : interp d env items = .ok r) :
    (∀ o ∈ d.opts, ∀ v p, interpOpt env items o = .ok (v, p) → (o.name ∈ r.provided ↔ p = true)) ∧
    (∀ m ∈ d.muls, ∀ vs p, interpMul env items m = .ok (vs, p) → (m.name ∈ r.provided ↔ p = true)) ∧
    (∀ t ∈ d.togs, ∀ c p, interpTog env items t = .ok (c, p) → (t.name ∈ r.provided ↔ p = true)) := by
  obtain ⟨_, vo, vm, vt, ho, hm, ht, rfl⟩ := interp_eq_ok_iff.mp h
  refine ⟨fun o hmem v p hi => ?_, fun m hmem vs p hi => ?_, fun t hmem c p hi => ?_⟩
  · have hp : (vo o).2 = p := congrArg Prod.snd (Except.ok.inj ((ho o hmem).symm.trans hi))
    simp only [List.mem_append, name_mem_filter_iff (nodup_optNames hn) _ hmem,
      name_not_mem_filter (fun m hm => optName_ne_mulName hn hmem hm),
      name_not_mem_filter (fun t ht => optName_ne_togName hn hmem ht), or_false, hp]
  · have hp : (vm m).2 = p := congrArg Prod.snd (Except.ok.inj ((hm m hmem).symm.trans hi))
    simp only [List.mem_append, name_mem_filter_iff (nodup_mulNames hn) _ hmem,
      name_not_mem_filter (fun o ho => (optName_ne_mulName hn ho hmem).symm),
      name_not_mem_filter (fun t ht => mulName_ne_togName hn hmem ht), or_false, false_or, hp]
  · have hp : (vt t).2 = p := congrArg Prod.snd (Except.ok.inj ((ht t hmem).symm.trans hi))
    simp only [List.mem_append, name_mem_filter_iff (nodup_togNames hn) _ hmem,
      name_not_mem_filter (fun o ho => (optName_ne_togName hn ho hmem).symm),
      name_not_mem_filter (fun m hm => (mulName_ne_togName hn hm hmem).symm), or_false, false_or, hp]

theorem interp_userErr {d : Decl} {env : Env} {items : List Item} : UserErr (interp d env items) := by
  unfold interp
  refine .ite userErr_user ?_
  split
  · exact userErr_ok _
  · exact userErr_user

theorem interp_err_iff (d : Decl) (env : Env) (items : List Item) :
    interp d env items = .error .user ↔
      tooMany d (positionalsOf items).length = true ∨
      (∃ o ∈ d.opts, interpOpt env items o = .error .user) ∨
      (∃ m ∈ d.muls, interpMul env items m = .error .user) ∨
      (∃ t ∈ d.togs, interpTog env items t = .error .user) := by
  constructor
  · intro h
    -- where none of the four holds, every option has a value and `interp_eq_ok_iff` makes `interp` succeed
    cases hroom : tooMany d (positionalsOf items).length with
    | true => exact .inl rfl
    | false =>
      right
      rcases forall_ok_or_exists_err (interpOpt env items) d.opts with ⟨vo, ho⟩ | ⟨o, ho, e, he⟩
      · rcases forall_ok_or_exists_err (interpMul env items) d.muls with ⟨vm, hm⟩ | ⟨m, hm, e, he⟩
        · rcases forall_ok_or_exists_err (interpTog env items) d.togs with ⟨vt, ht⟩ | ⟨t, ht, e, he⟩
          · rw [interp_eq_ok_iff.mpr ⟨hroom, vo, vm, vt, ho, hm, ht, rfl⟩] at h
            cases h
          · exact .inr (.inr ⟨t, ht, interpTog_userErr e he ▸ he⟩)
        · exact .inr (.inl ⟨m, hm, interpMul_userErr e he ▸ he⟩)
      · exact .inl ⟨o, ho, interpOpt_userErr e he ▸ he⟩
  · intro h
    cases hi : interp d env items with
    | error e => rw [interp_userErr e hi]
    | ok r =>
      -- had `interp` succeeded, every option would have a value
      obtain ⟨hroom, vo, vm, vt, ho, hm, ht, _⟩ := interp_eq_ok_iff.mp hi
      rcases h with h | ⟨o, hmem, he⟩ | ⟨m, hmem, he⟩ | ⟨t, hmem, he⟩
      · rw [hroom] at h; cases h
      · exact nomatch (ho o hmem).symm.trans he
      · exact nomatch (hm m hmem).symm.trans he
      · exact nomatch (ht t hmem).symm.trans he

theorem cliValues_append (n : Str) (a b : List Item) : cliValues n (a ++ b) = cliValues n a ++ cliValues n b :=
  List.filterMap_append

theorem posCount_append (t : TogD) (a b : List Item) : posCount t (a ++ b) = posCount t a + posCount t b := by
  simp only [posCount, List.map_append, List.sum_append]

theorem negCount_append (t : TogD) (a b : List Item) : negCount t (a ++ b) = negCount t a + negCount t b := by
  simp only [negCount, List.filter_append, List.length_append]

theorem positionalsOf_append (a b : List Item) : positionalsOf (a ++ b) = positionalsOf a ++ positionalsOf b :=
  List.filterMap_append

theorem interp_congr (d : Decl) (env : Env) (a b : List Item)
    (ho : ∀ o ∈ d.opts, cliValues o.name a = cliValues o.name b)
    (hm : ∀ m ∈ d.muls, cliValues m.name a = cliValues m.name b)
    (ht : ∀ t ∈ d.togs, posCount t a = posCount t b ∧ negCount t a = negCount t b)
    (hpos : positionalsOf a = positionalsOf b) : interp d env a = interp d env b := by
  have hO : ∀ o ∈ d.opts, interpOpt env a o = interpOpt env b o := fun o h => by
    unfold interpOpt; rw [ho o h]
  have hM : ∀ m ∈ d.muls, interpMul env a m = interpMul env b m := fun m h => by
    unfold interpMul; rw [hm m h]
  have hT : ∀ t ∈ d.togs, interpTog env a t = interpTog env b t := fun t h => by
    unfold interpTog; rw [(ht t h).1, (ht t h).2]
  unfold interp
  rw [hpos, mapAll_congr hO, mapAll_congr hM, mapAll_congr hT]

end NitroVerif.Opt
