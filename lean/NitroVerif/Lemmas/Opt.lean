import NitroVerif.Lemmas.OptTok
import NitroVerif.Lemmas.OptNames

/-!
The specification's `explain` by itself: what its lookups find in a declaration; that whatever explains a
token is sound (`Explained`: it names what is declared, is no positional, and spells back to the tokens it
was read from), read off the branches of `explainLong` and `explainShort` with the rules of `Sound`;
`explainGo` one token at a time, and that an explanation spells back to the argument vector (`explainGo_render`).
-/
namespace NitroVerif.Opt

/-- Long names of the value-taking options are pairwise distinct (the declaration API guarantees
it: Props/C13). -/
def WFNames (d : Decl) : Prop := ((valueOpts d).map (·.1)).Nodup

theorem wfNames_of_nodup {d : Decl} (h : (allNames d).Nodup) : WFNames d := by
  unfold WFNames valueOpts
  unfold allNames at h
  have := (List.nodup_append.mp h).1
  simpa [List.map_append, Function.comp_def] using this

theorem isTogName_iff {d : Decl} {n : Str} : isTogName d n = true ↔ ∃ t ∈ d.togs, t.name = n := by
  simp only [isTogName, List.any_eq_true, beq_iff_eq]

theorem isTogLetter_iff {d : Decl} {c : Char} : isTogLetter d c = true ↔ ∃ t ∈ d.togs, t.short = some c := by
  simp only [isTogLetter, List.any_eq_true, beq_iff_eq]

theorem isValueOptName_iff {d : Decl} {n : Str} :
    isValueOptName d n = true ↔ n ∈ d.opts.map (·.name) ++ d.muls.map (·.name) := by
  simp [isValueOptName, valueOpts]

theorem shortNames_eq (d : Decl) :
    shortNames d = (valueOpts d).filterMap (·.2) ++ d.togs.filterMap (·.short) := by
  simp [shortNames, valueOpts, List.filterMap_append, List.filterMap_map, Function.comp_def]

theorem noPrefix_drop {n : Str} (h : noPrefix.isPrefixOf n = true) : noPrefix ++ n.drop 3 = n := by
  obtain ⟨t, rfl⟩ := List.isPrefixOf_iff_prefix.mp h
  rfl

theorem valueOptOfLetter_isValueOptName {d : Decl} {c : Char} {n : Str} (h : valueOptOfLetter d c = some n) :
    isValueOptName d n = true := by
  obtain ⟨p, hf, rfl⟩ := Option.map_eq_some_iff.mp h
  exact List.any_eq_true.mpr ⟨p, List.mem_of_find?_eq_some hf, beq_self_eq_true _⟩

theorem letterOf_of_valueOptOfLetter {d : Decl} (h : WFNames d) {c : Char} {n : Str}
    (hv : valueOptOfLetter d c = some n) : letterOf d n = some c := by
  obtain ⟨p, hf, rfl⟩ := Option.map_eq_some_iff.mp hv
  have hc : p.2 = some c := by simpa using List.find?_some hf
  rw [letterOf, find?_by_key (fun q : Str × Option Char => q.1) (valueOpts d) h p (List.mem_of_find?_eq_some hf)]
  exact hc

/-- the converse needs the letters distinct instead of the names -/
theorem valueOptOfLetter_of_letterOf {d : Decl} (h : (shortNames d).Nodup) {n : Str} {c : Char}
    (hl : letterOf d n = some c) : valueOptOfLetter d c = some n := by
  have hnd : ((valueOpts d).filterMap (·.2)).Nodup := (List.nodup_append.mp (shortNames_eq d ▸ h)).1
  have hmem : (n, some c) ∈ valueOpts d := by
    unfold letterOf at hl
    split at hl
    · rename_i n' s hf
      have h2 := List.find?_some hf
      simp only [beq_iff_eq] at h2
      rw [← h2, ← hl]; exact List.mem_of_find?_eq_some hf
    · cases hl
  unfold valueOptOfLetter
  cases hf : (valueOpts d).find? (·.2 == some c) with
  | none => simpa using List.find?_eq_none.mp hf (n, some c) hmem
  | some p =>
    have h2 := List.find?_some hf
    simp only [beq_iff_eq] at h2
    rw [eq_of_nodup_filterMap hnd (List.mem_of_find?_eq_some hf) hmem h2 rfl]; rfl

theorem explainTok_long {d : Decl} {tok n : Str} {v : Option Str} (h : shapeOf tok = some (.long n v))
    (next : Option Str) : explainTok d tok next = explainLong d n v next := by
  rw [explainTok, h]

theorem explainTok_short {d : Decl} {tok ls : Str} {v : Option Str} (h : shapeOf tok = some (.short ls v))
    (next : Option Str) : explainTok d tok next = explainShort d ls v next := by
  rw [explainTok, h]

/-- items as `explain` produces them: every name in an item is declared with the right kind -/
def ItemOk (d : Decl) : Item → Prop
  | .pos _ => True
  | .sep => True
  | .optSep n _ _ => isValueOptName d n = true
  | .optEq n _ _ => isValueOptName d n = true
  | .togLong n => isTogName d n = true
  | .togNeg n => isTogName d n = true
  | .togShort ls => ls ≠ [] ∧ ls.all (isTogLetter d) = true

/-- What holds of an explanation `(it, owns)` of `tok` followed by `rest`.  Only `render` needs distinct names:
`-c` is spelt back through `letterOf`, which looks at the first option of that name. -/
structure Explained (d : Decl) (tok : Str) (rest : List Str) (it : Item) (owns : Bool) : Prop where
  ok : ItemOk d it
  notPos : ∀ t, it ≠ .pos t
  render : WFNames d → renderItem d it ++ (if owns then rest.tail else rest) = tok :: rest

/-- `x`, if it is an explanation at all, is one of `tok` followed by `rest`; the rules let this be read off a
function that is written with `if`s and ends in `none` or `some` -/
def Sound (d : Decl) (tok : Str) (rest : List Str) (x : Option (Item × Bool)) : Prop :=
  ∀ it owns, x = some (it, owns) → Explained d tok rest it owns

section
variable {d : Decl} {tok head : Str} {rest : List Str} {x y : Option (Item × Bool)} {it : Item}

theorem sound_none : Sound d tok rest none := fun _ _ e => nomatch e

theorem sound_some {owns : Bool} (h : Explained d tok rest it owns) : Sound d tok rest (some (it, owns)) :=
  fun _ _ e => by cases e; exact h

theorem Sound.ite {c : Prop} [Decidable c] (hx : c → Sound d tok rest x) (hy : ¬c → Sound d tok rest y) :
    Sound d tok rest (if c then x else y) := by
  split
  · exact hx ‹_›
  · exact hy ‹_›

/-- a toggle's item is written `head` and takes no value -/
theorem Sound.flag (v : Option Str) (ok : ItemOk d it) (np : ∀ t, it ≠ .pos t) (hr : renderItem d it = [head]) :
    Sound d (head ++ eqTail v) rest (if v.isSome then none else some (it, false)) := by
  cases v with
  | some w => exact sound_none
  | none => exact sound_some ⟨ok, np, fun _ => by rw [hr, append_eqTail_none]; rfl⟩

end

/-- a value-taking option written `head`, by name or by letter -/
theorem explainValue_sound {d : Decl} {n head : Str} {sh : Bool} (hn : isValueOptName d n = true)
    (hs : WFNames d → spell d n sh = head) (v : Option Str) (rest : List Str) :
    Sound d (head ++ eqTail v) rest (explainValue n sh v rest.head?) := by
  cases v with
  | some w => exact sound_some ⟨hn, nofun, fun h => by rw [← hs h]; rfl⟩
  | none =>
    rw [append_eqTail_none]
    cases rest with
    | nil => exact sound_none
    | cons nx rs => exact .ite (fun _ => sound_some ⟨hn, nofun, fun h => by rw [← hs h]; rfl⟩) fun _ => sound_none

theorem explainLong_sound (d : Decl) (n : Str) (v : Option Str) (rest : List Str) :
    Sound d (dashes ++ n ++ eqTail v) rest (explainLong d n v rest.head?) := by
  unfold explainLong
  exact .ite (fun hv => explainValue_sound hv (fun _ => rfl) v rest) fun _ =>
    .ite (fun ht => .flag v ht nofun rfl) fun _ =>
    .ite (fun hp => have hp := Bool.and_eq_true_iff.mp hp
      .flag v hp.2 nofun (congrArg (fun x => [dashes ++ x]) (noPrefix_drop hp.1))) fun _ => sound_none

theorem explainShort_sound (d : Decl) {ls : Str} (hne : ls ≠ []) (v : Option Str) (rest : List Str) :
    Sound d ('-' :: ls ++ eqTail v) rest (explainShort d ls v rest.head?) := by
  -- without a value-taking option in play the item is the bundle, single letter or not
  have bundle : ∀ {b : Bool}, (b = true → ls.all (isTogLetter d) = true) →
      Sound d ('-' :: ls ++ eqTail v) rest (if (v.isNone && b) = true then some (.togShort ls, false) else none) :=
    fun hb => .ite (fun h => by
      rw [Bool.and_eq_true, Option.isNone_iff_eq_none] at h
      rw [h.1, append_eqTail_none]
      exact sound_some ⟨⟨hne, hb h.2⟩, nofun, fun _ => rfl⟩) fun _ => sound_none
  unfold explainShort
  split
  · rename_i c
    cases hn : valueOptOfLetter d c with
    | some n =>
      exact explainValue_sound (valueOptOfLetter_isValueOptName hn)
        (fun h => by simp [spell, letterOf_of_valueOptOfLetter h hn]) v rest
    | none => exact bundle fun hc => by simp [hc]
  · exact bundle id

theorem explainTok_sound {d : Decl} {tok : Str} {rest : List Str} {it : Item} {owns : Bool}
    (h : explainTok d tok rest.head? = some (it, owns)) : Explained d tok rest it owns := by
  unfold explainTok at h
  cases hsh : shapeOf tok with
  | none => rw [hsh] at h; cases h
  | some sh =>
    rw [hsh] at h
    cases sh with
    | long n v =>
      rw [tok_of_splitEq (shapeOf_long hsh).1]
      exact explainLong_sound d n v rest it owns h
    | short ls v =>
      obtain ⟨hsp, c, r, rfl, _⟩ := shapeOf_short hsh
      rw [tok_of_splitEq hsp]
      exact explainShort_sound d (List.cons_ne_nil c r) v rest it owns h

theorem explainGo_nil (d : Decl) (onlyPos : Bool) : explainGo d onlyPos [] = some [] := by
  rw [explainGo]

theorem explainGo_pos {d : Decl} {onlyPos : Bool} {tok : Str} {rest : List Str}
    (h : (onlyPos || isValueTok tok) = true) :
    explainGo d onlyPos (tok :: rest) = (explainGo d (onlyPos || d.greedy) rest).map (.pos tok :: ·) := by
  rw [explainGo, if_pos h]

theorem explainGo_sep {d : Decl} {tok : Str} {rest : List Str}
    (hv : isValueTok tok = false) (hd : isDoubleDashTok tok = true) :
    explainGo d false (tok :: rest) = (explainGo d true rest).map (.sep :: ·) := by
  rw [explainGo, hv, if_neg (by decide), if_pos hd]

theorem explainGo_tok {d : Decl} {tok : Str} {rest : List Str}
    (hv : isValueTok tok = false) (hd : isDoubleDashTok tok = false) :
    explainGo d false (tok :: rest) =
      match explainTok d tok rest.head? with
      | none => none
      | some (it, owns) => (explainGo d false (if owns then rest.tail else rest)).map (it :: ·) := by
  rw [explainGo, hv, hd, if_neg (by decide), if_neg (by decide)]
  cases explainTok d tok rest.head? with
  | none => rfl
  | some p => obtain ⟨it, owns⟩ := p; cases owns <;> rfl

/-- A token that `explainTok` explains has a shape, so it is neither a value nor `--`. -/
theorem explainGo_of_explainTok {d : Decl} {tok : Str} {rest : List Str} {it : Item} {owns : Bool}
    (hx : explainTok d tok rest.head? = some (it, owns)) :
    explainGo d false (tok :: rest) = (explainGo d false (if owns then rest.tail else rest)).map (it :: ·) := by
  have hs : syntaxOk tok = true := by
    cases hsh : shapeOf tok with
    | none => rw [explainTok, hsh] at hx; cases hx
    | some sh => exact shapeOf_syntaxOk hsh
  obtain ⟨hv, hd⟩ := syntaxOk_dash hs
  rw [explainGo_tok hv hd, hx]

/-- Induction over an explanation: the four ways in which `explainGo` takes the next token(s). -/
theorem explainGo_induct {d : Decl} {P : List Str → List Item → Prop} (nil : P [] [])
    (pos : ∀ tok rest its, P rest its → P (tok :: rest) (.pos tok :: its))
    (sep : ∀ rest its, P rest its → P (dashes :: rest) (.sep :: its))
    (opt : ∀ tok rest it owns its, explainTok d tok rest.head? = some (it, owns) →
      P (if owns then rest.tail else rest) its → P (tok :: rest) (it :: its))
    {onlyPos : Bool} {toks : List Str} {items : List Item} (h : explainGo d onlyPos toks = some items) :
    P toks items := by
  induction toks using tokens_induct generalizing onlyPos items with
  | nil => rw [explainGo_nil] at h; cases h; exact nil
  | cons tok rest ih ih2 =>
    by_cases hp : (onlyPos || isValueTok tok) = true
    · rw [explainGo_pos hp] at h
      obtain ⟨its, hr, rfl⟩ := Option.map_eq_some_iff.mp h
      exact pos tok rest its (ih hr)
    · obtain ⟨rfl, hv⟩ := Bool.or_eq_false_iff.mp (Bool.eq_false_iff.mpr hp)
      by_cases hd : isDoubleDashTok tok = true
      · rw [explainGo_sep hv hd] at h
        obtain ⟨its, hr, rfl⟩ := Option.map_eq_some_iff.mp h
        cases of_decide_eq_true hd
        exact sep rest its (ih hr)
      · rw [explainGo_tok hv (Bool.eq_false_iff.mpr hd)] at h
        cases hex : explainTok d tok rest.head? with
        | none => rw [hex] at h; cases h
        | some p =>
          obtain ⟨it, owns⟩ := p
          rw [hex] at h
          obtain ⟨its, hr, rfl⟩ := Option.map_eq_some_iff.mp h
          refine opt tok rest it owns its hex ?_
          cases owns
          · exact ih hr
          · exact ih2 hr

theorem explainGo_itemOk {d : Decl} (toks : List Str) (onlyPos : Bool) (items : List Item)
    (h : explainGo d onlyPos toks = some items) : ∀ it ∈ items, ItemOk d it :=
  explainGo_induct (P := fun _ items => ∀ it ∈ items, ItemOk d it) nofun
    (fun _ _ _ ih => List.forall_mem_cons.mpr ⟨trivial, ih⟩) (fun _ _ ih => List.forall_mem_cons.mpr ⟨trivial, ih⟩)
    (fun _ _ _ _ _ hex ih => List.forall_mem_cons.mpr ⟨(explainTok_sound hex).ok, ih⟩) h

theorem render_cons (d : Decl) (it : Item) (rest : List Item) :
    render d (it :: rest) = renderItem d it ++ render d rest :=
  List.flatMap_cons

theorem explainGo_render (d : Decl) (h : WFNames d) (onlyPos : Bool) (toks : List Str)
    (items : List Item) (he : explainGo d onlyPos toks = some items) : render d items = toks := by
  refine explainGo_induct (P := fun toks items => render d items = toks) rfl ?_ ?_ ?_ he
  · intro tok rest its ih
    rw [render_cons, ih]; rfl
  · intro rest its ih
    rw [render_cons, ih]; rfl
  · intro tok rest it owns its hex ih
    rw [render_cons, ih, (explainTok_sound hex).render h]

end NitroVerif.Opt
