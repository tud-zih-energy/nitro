import NitroVerif.Model.Opt

/-!
Lists whose elements have pairwise distinct keys, and what that says of a declaration whose long names
are distinct over all kinds, `(allNames d).Nodup` (the declaration API guarantees it: Props/C13).  Also
`UserErr`, "fails only with a `parsing_error`", with its closure rules: the parser's model and the
specification both use it.
-/
namespace NitroVerif.Opt

theorem eq_of_nodup_filterMap {α β : Type} {f : α → Option β} {l : List α} (h : (l.filterMap f).Nodup)
    {x y : α} (hx : x ∈ l) (hy : y ∈ l) {c : β} (fx : f x = some c) (fy : f y = some c) : x = y := by
  -- the images are pairwise distinct, so two elements of `l` with a common image are one element
  have hp : l.Pairwise fun a b => ∀ c, f a = some c → f b = some c → a = b :=
    (List.pairwise_filterMap.mp h).imp fun hne c ha hb => absurd rfl (hne c ha c hb)
  exact List.Pairwise.forall_of_forall_of_flip (fun _ _ _ _ _ => rfl) hp
    (hp.imp fun hab c ha hb => (hab c hb ha).symm) hx hy c fx fy

theorem eq_of_nodup_map {α β : Type} {key : α → β} {l : List α} (h : (l.map key).Nodup) {x y : α}
    (hx : x ∈ l) (hy : y ∈ l) (hk : key x = key y) : x = y :=
  eq_of_nodup_filterMap (f := fun a => some (key a)) (by rwa [List.filterMap_eq_map']) hx hy
    (congrArg some hk) rfl

theorem find?_by_key {α β : Type} [BEq β] [LawfulBEq β] (key : α → β) (l : List α) (hnd : (l.map key).Nodup) (x : α) (hx : x ∈ l) :
    l.find? (fun y => key y == key x) = some x := by
  cases hf : l.find? (fun y => key y == key x) with
  | none => exact absurd (beq_self_eq_true (key x)) (List.find?_eq_none.mp hf x hx)
  | some y =>
    have hk : key y = key x := by simpa using List.find?_some hf
    rw [eq_of_nodup_map hnd (List.mem_of_find?_eq_some hf) hx hk]

theorem name_mem_filter_iff {α β : Type} {key : α → β} {l : List α} (h : (l.map key).Nodup) (p : α → Bool)
    {x : α} (hx : x ∈ l) : key x ∈ (l.filter p).map key ↔ p x = true := by
  constructor
  · intro hmem
    obtain ⟨y, hy, hk⟩ := List.mem_map.mp hmem
    obtain ⟨hyl, hpy⟩ := List.mem_filter.mp hy
    rw [← eq_of_nodup_map h hyl hx hk]; exact hpy
  · intro hp
    exact List.mem_map_of_mem (List.mem_filter.mpr ⟨hx, hp⟩)

theorem name_not_mem_filter {α β : Type} {key : α → β} {l : List α} {n : β} (h : ∀ y ∈ l, n ≠ key y)
    (p : α → Bool) : n ∉ (l.filter p).map key := by
  intro hmem
  obtain ⟨y, hy, hk⟩ := List.mem_map.mp hmem
  exact h y (List.mem_filter.mp hy).1 hk.symm

section names
variable {d : Decl} (h : (allNames d).Nodup)
include h

theorem nodup_optNames : (d.opts.map (·.name)).Nodup :=
  (List.nodup_append.mp (List.nodup_append.mp h).1).1

theorem nodup_mulNames : (d.muls.map (·.name)).Nodup :=
  (List.nodup_append.mp (List.nodup_append.mp h).1).2.1

theorem nodup_togNames : (d.togs.map (·.name)).Nodup :=
  (List.nodup_append.mp h).2.1

theorem optName_ne_mulName {o : OptD} {m : MulD} (ho : o ∈ d.opts) (hm : m ∈ d.muls) : o.name ≠ m.name :=
  (List.nodup_append.mp (List.nodup_append.mp h).1).2.2 _ (List.mem_map_of_mem ho) _ (List.mem_map_of_mem hm)

theorem valName_ne_togName {n : Str} (hn : n ∈ d.opts.map (·.name) ++ d.muls.map (·.name)) {t : TogD}
    (ht : t ∈ d.togs) : n ≠ t.name :=
  (List.nodup_append.mp h).2.2 _ hn _ (List.mem_map_of_mem ht)

theorem optName_ne_togName {o : OptD} {t : TogD} (ho : o ∈ d.opts) (ht : t ∈ d.togs) : o.name ≠ t.name :=
  valName_ne_togName h (List.mem_append_left _ (List.mem_map.mpr ⟨o, ho, rfl⟩)) ht

theorem mulName_ne_togName {m : MulD} {t : TogD} (hm : m ∈ d.muls) (ht : t ∈ d.togs) : m.name ≠ t.name :=
  valName_ne_togName h (List.mem_append_right _ (List.mem_map.mpr ⟨m, hm, rfl⟩)) ht

end names

/-- every failure is a `parsing_error`; the four rules are all that is needed to see it of a function that
is written with `if`s and ends in `.error .user` or `.ok` (a `match` in it is taken by `cases` or `split`) -/
def UserErr {α : Type} (x : Except Err α) : Prop := ∀ e, x = .error e → e = .user

section
variable {α β : Type} {x y : Except Err α}

theorem userErr_ok (a : α) : UserErr (.ok a : Except Err α) := nofun

theorem userErr_user : UserErr (.error .user : Except Err α) := fun _ h => (Except.error.inj h).symm

theorem UserErr.ite {c : Prop} [Decidable c] (hx : UserErr x) (hy : UserErr y) : UserErr (if c then x else y) := by
  split <;> assumption

theorem UserErr.map (f : α → β) (h : UserErr x) : UserErr (x.map f) := by
  cases x with
  | error e => exact h e rfl ▸ userErr_user
  | ok a => exact userErr_ok _

end

end NitroVerif.Opt
