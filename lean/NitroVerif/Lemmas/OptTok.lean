import NitroVerif.Spec.Opt

/-!
Facts about tokens: `splitEq` (with `eqTail`, the text it cuts off), `shapeOf`, and what `mkUI` and the `UI`
predicates say for a long and for a short token (`UI.Long`, `UI.Short`); `tokens_induct`, the induction
over a token list that takes one or two tokens per step.
-/
namespace NitroVerif.Opt

/-- Induction over a token list of which each step takes one token or two. -/
theorem tokens_induct {α : Type} {P : List α → Prop} (nil : P [])
    (cons : ∀ tok rest, P rest → P rest.tail → P (tok :: rest)) (toks : List α) : P toks := by
  have both : P toks ∧ P toks.tail := by
    induction toks with
    | nil => exact ⟨nil, nil⟩
    | cons tok rest ih => exact ⟨cons tok rest ih.1 ih.2, ih.1⟩
  exact both.1

/-- what `splitEq` cuts off behind the name: `=v`, or nothing -/
def eqTail : Option Str → Str
  | some v => '=' :: v
  | none => []

theorem append_eqTail_none (a : Str) : a ++ eqTail none = a := List.append_nil a

theorem splitEq_cons (c : Char) (cs : Str) (hc : c ≠ '=') :
    splitEq (c :: cs) = (c :: (splitEq cs).1, (splitEq cs).2) := by
  rw [splitEq, if_neg hc]

theorem splitEq_join (tok : Str) : (splitEq tok).1 ++ eqTail (splitEq tok).2 = tok := by
  induction tok with
  | nil => rfl
  | cons c cs ih =>
    by_cases hc : c = '='
    · subst hc; rfl
    · rw [splitEq_cons c cs hc, List.cons_append, ih]

theorem tok_of_splitEq {tok a : Str} {v : Option Str} (h : splitEq tok = (a, v)) : tok = a ++ eqTail v := by
  rw [← splitEq_join tok, h]

theorem splitEq_append_eqTail (a : Str) (v : Option Str) (h : '=' ∉ a) : splitEq (a ++ eqTail v) = (a, v) := by
  induction a with
  | nil => cases v <;> rfl
  | cons c cs ih =>
    rw [List.mem_cons, not_or] at h
    rw [List.cons_append, splitEq_cons c _ (Ne.symm h.1), ih h.2]

theorem shapeOf_syntaxOk {tok : Str} {sh : Shape} (h : shapeOf tok = some sh) : syntaxOk tok = true := by
  unfold shapeOf at h
  by_cases hs : syntaxOk tok = true
  · exact hs
  · rw [if_pos (by simpa using hs)] at h; cases h

theorem syntaxOk_dash {tok : Str} (h : syntaxOk tok = true) :
    isValueTok tok = false ∧ isDoubleDashTok tok = false := by
  unfold syntaxOk at h
  split at h
  · exact ⟨rfl, by simp [isDoubleDashTok]⟩
  · cases h
  · rename_i c _ _ _
    refine ⟨rfl, ?_⟩
    rw [Bool.and_eq_true, bne_iff_ne] at h
    simpa [isDoubleDashTok] using fun hc => absurd hc h.1
  · cases h

theorem shapeOf_long {tok n : Str} {v : Option Str} (h : shapeOf tok = some (.long n v)) :
    splitEq tok = ('-' :: '-' :: n, v) ∧ ∃ c r, n = c :: r ∧ c ≠ '-' := by
  have hs := shapeOf_syntaxOk h
  have hsp : splitEq tok = ('-' :: '-' :: n, v) := by
    simp only [shapeOf, hs, Bool.not_true, Bool.false_eq_true, if_false] at h
    split at h
    · rename_i heq; cases h; exact heq
    · cases h
    · cases h
  refine ⟨hsp, ?_⟩
  rw [tok_of_splitEq hsp] at hs
  cases n with
  | nil => cases v <;> simp [eqTail, syntaxOk] at hs
  | cons c r =>
    simp only [List.cons_append, syntaxOk, Bool.and_eq_true, bne_iff_ne] at hs
    exact ⟨c, r, rfl, hs.1⟩

theorem shapeOf_short {tok ls : Str} {v : Option Str} (h : shapeOf tok = some (.short ls v)) :
    splitEq tok = ('-' :: ls, v) ∧ ∃ c r, ls = c :: r ∧ c ≠ '-' := by
  have hs := shapeOf_syntaxOk h
  have hsp : splitEq tok = ('-' :: ls, v) ∧ ∀ r, ls ≠ '-' :: r := by
    simp only [shapeOf, hs, Bool.not_true, Bool.false_eq_true, if_false] at h
    split at h
    · cases h
    · rename_i hnl heq; cases h; exact ⟨heq, fun r hr => hnl r hr⟩
    · cases h
  refine ⟨hsp.1, ?_⟩
  rw [tok_of_splitEq hsp.1] at hs
  cases ls with
  | nil => cases v <;> simp [eqTail, syntaxOk] at hs
  | cons c r => exact ⟨c, r, rfl, fun hc => hsp.2 r (by rw [hc])⟩

theorem shapeOf_long_mk {c : Char} {r : Str} (v : Option Str) (hc : c ≠ '-') (hne : '=' ∉ c :: r) :
    shapeOf (dashes ++ c :: r ++ eqTail v) = some (.long (c :: r) v) := by
  have hc2 : c ≠ '=' := fun e => hne (e ▸ List.mem_cons_self)
  have hs : syntaxOk (dashes ++ c :: r ++ eqTail v) = true := by
    simp [dashes, syntaxOk, hc, hc2]
  have hd : '=' ∉ dashes ++ c :: r := by
    rw [List.mem_append, not_or]
    exact ⟨by decide, hne⟩
  unfold shapeOf
  rw [hs, splitEq_append_eqTail _ _ hd]
  rfl

theorem shapeOf_short_mk {c : Char} {r : Str} (v : Option Str) (hc : c ≠ '-') (hne : '=' ∉ c :: r) :
    shapeOf ('-' :: c :: r ++ eqTail v) = some (.short (c :: r) v) := by
  have hc2 : c ≠ '=' := fun e => hne (e ▸ List.mem_cons_self)
  have hs : syntaxOk ('-' :: c :: r ++ eqTail v) = true := by
    simp [syntaxOk, hc, hc2]
  have hd : '=' ∉ '-' :: c :: r := by
    rw [List.mem_cons, not_or]
    exact ⟨by decide, hne⟩
  unfold shapeOf
  rw [hs, splitEq_append_eqTail ('-' :: c :: r) v hd]
  simp only [Bool.not_true, Bool.false_eq_true, if_false]
  split
  · rename_i heq; cases heq; exact absurd rfl hc
  · rename_i heq; cases heq; rfl
  · rename_i h2; exact absurd rfl (h2 (c :: r) v)

theorem mkUI_dash {tok : Str} (hv : isValueTok tok = false) (hd : isDoubleDashTok tok = false) :
    mkUI tok = if syntaxOk tok then some ⟨tok, (splitEq tok).1, (splitEq tok).2⟩ else none := by
  -- the name part starts with the dash of the token
  have hname : isValueTok (splitEq tok).1 = false := by
    unfold isValueTok at hv
    split at hv
    · rename_i cs; rw [splitEq_cons '-' cs (by decide)]; rfl
    · cases hv
  simp only [mkUI, hname, hd, Bool.or_self, Bool.false_eq_true, if_false]

theorem mkUI_of_shape {tok : Str} {sh : Shape} (h : shapeOf tok = some sh) :
    mkUI tok = some ⟨tok, (splitEq tok).1, (splitEq tok).2⟩ := by
  have hs := shapeOf_syntaxOk h
  rw [mkUI_dash (syntaxOk_dash hs).1 (syntaxOk_dash hs).2, if_pos hs]

theorem mkUI_of_shape_none {tok : Str} (hv : isValueTok tok = false) (hd : isDoubleDashTok tok = false)
    (h : shapeOf tok = none) : mkUI tok = none := by
  rw [mkUI_dash hv hd]
  by_cases hs : syntaxOk tok = true
  · -- the name starts with a dash, so one of the two shapes applies
    exfalso
    unfold isValueTok at hv
    split at hv
    · rename_i cs
      simp only [shapeOf, hs, Bool.not_true, Bool.false_eq_true, if_false, splitEq_cons '-' cs (by decide)] at h
      split at h
      · cases h
      · cases h
      · rename_i h1 h2; exact h2 _ _ rfl
    · cases hv
  · rw [if_neg hs]

/-- what the parser asks of the `user_input` of `--n[=v]` -/
structure UI.Long (u : UI) (n : Str) (v : Option Str) : Prop where
  isShort : u.isShort = false
  isNamed : u.isNamed = true
  asNamed : u.asNamed = n
  hasValue : u.hasValue = v.isSome
  theValue : u.theValue = v.getD []
  hasPrefix : u.hasPrefix = noPrefix.isPrefixOf n
  nameWithoutPrefix : u.nameWithoutPrefix = n.drop 3

/-- what the parser asks of the `user_input` of `-ls[=v]` -/
structure UI.Short (u : UI) (ls : Str) (v : Option Str) : Prop where
  isShort : u.isShort = true
  isNamed : u.isNamed = false
  shortList : u.shortList = ls
  hasValue : u.hasValue = v.isSome
  theValue : u.theValue = v.getD []
  hasPrefix : u.hasPrefix = false

theorem mkUI_long {tok n : Str} {v : Option Str} (hsh : shapeOf tok = some (.long n v)) :
    ∃ u, mkUI tok = some u ∧ u.isDoubleDash = false ∧ u.Long n v := by
  obtain ⟨hsp, c, r, rfl, hc⟩ := shapeOf_long hsh
  refine ⟨_, mkUI_of_shape hsh, (syntaxOk_dash (shapeOf_syntaxOk hsh)).2, ?_⟩
  rw [hsp]
  have hval : (⟨tok, '-' :: '-' :: c :: r, v⟩ : UI).isValue = false := rfl
  exact {
    isShort := by simp [UI.isShort]
    isNamed := by simp [UI.isNamed, hc]
    asNamed := rfl
    hasValue := by simp [UI.hasValue, hval]
    theValue := by simp [UI.theValue, hval]
    hasPrefix := by simp [UI.hasPrefix, noPrefix, List.isPrefixOf]
    nameWithoutPrefix := rfl }

theorem mkUI_short {tok ls : Str} {v : Option Str} (hsh : shapeOf tok = some (.short ls v)) :
    ∃ u, mkUI tok = some u ∧ u.isDoubleDash = false ∧ u.Short ls v := by
  obtain ⟨hsp, c, r, rfl, hc⟩ := shapeOf_short hsh
  refine ⟨_, mkUI_of_shape hsh, (syntaxOk_dash (shapeOf_syntaxOk hsh)).2, ?_⟩
  rw [hsp]
  have hval : (⟨tok, '-' :: c :: r, v⟩ : UI).isValue = false := rfl
  have hne : ('-' == c) = false := by simpa using fun h => hc h.symm
  exact {
    isShort := by simp [UI.isShort, hc]
    isNamed := by
      simp only [UI.isNamed]
      split
      · rename_i heq; simp at heq; exact absurd heq.1 hc
      · rfl
    shortList := rfl
    hasValue := by simp [UI.hasValue, hval]
    theValue := by simp [UI.theValue, hval]
    hasPrefix := by simp [UI.hasPrefix, List.isPrefixOf, hne] }

end NitroVerif.Opt
