import NitroVerif.Lemmas.OptItems

/-!
Refinement, part 1: what the parse loop does with one option-like token (`tokStep`: the three
`try_parse_as_*` passes) is what the specification's explanation of that token says, applied (`itemStep`): it
fails where there is none, and otherwise does what `applyOptItem` does for the explained item
(`UI.Long.tokStep_explain`, `UI.Short.tokStep_explain`; `dispatch` says it in the form of `DispatchOk`).
-/
namespace NitroVerif.Opt

/-- the body of the loop for an option-like token, after the syntax and short-list checks -/
def tokStep (d : Decl) (s : Dyn) (u : UI) (next : Option Str) : Except Err (Dyn × Bool) :=
  match tryOpts s u next d.opts with
  | some r => r
  | none =>
    match tryMuls s u next d.muls with
    | some r => r
    | none =>
      match tryTogs u s false d.togs with
      | .error e => .error e
      | .ok (s', true) => .ok (s', false)
      | .ok (_, false) => .error .user

/-- what the specification has the loop do with an option-like token: the item that explains it is
applied, and no explanation is a `parsing_error` -/
def itemStep (d : Decl) (s : Dyn) : Option (Item × Bool) → Except Err (Dyn × Bool)
  | none => .error .user
  | some (it, owns) => (applyOptItem d s it).map (·, owns)

theorem updateTog_pos (s : Dyn) (t : TogD) (u : UI) (hv : u.hasValue = false)
    (hp : (u.hasPrefix && u.nameWithoutPrefix == t.name) = false) :
    updateTog s t u = togPos s t (togInc t u) := by
  unfold updateTog togPos
  simp [hv, hp]

theorem updateTog_neg (s : Dyn) (t : TogD) (u : UI) (hv : u.hasValue = false)
    (hp : (u.hasPrefix && u.nameWithoutPrefix == t.name) = true) :
    updateTog s t u = togNegate s t := by
  unfold updateTog togNegate
  simp [hv, hp]

theorem updateTog_value (s : Dyn) (t : TogD) (u : UI) (hv : u.hasValue = true) :
    updateTog s t u = .error .user := by
  rw [updateTog, if_pos hv]

theorem tryTogs_none (u : UI) (s : Dyn) (f : Bool) (l : List TogD)
    (h : ∀ t ∈ l, matchesTog t u = false) : tryTogs u s f l = .ok (s, f) := by
  induction l with
  | nil => rfl
  | cons t rest ih =>
    rw [tryTogs, h t List.mem_cons_self, if_neg (by decide)]
    exact ih fun x hx => h x (List.mem_cons_of_mem _ hx)

/-- of toggles with distinct names the token matches the one called like `t`: only `t` is touched -/
theorem tryTogs_one (u : UI) (s : Dyn) (f : Bool) (l : List TogD) {t : TogD} (ht : t ∈ l)
    (hk : ∀ x ∈ l, matchesTog x u = true ↔ x.name = t.name) (hnd : (l.map (·.name)).Nodup) :
    tryTogs u s f l = (updateTog s t u).map (·, true) := by
  induction l generalizing f with
  | nil => cases ht
  | cons x rest ih =>
    have hnd' := List.nodup_cons.mp (List.map_cons ▸ hnd)
    rw [tryTogs]
    by_cases hx : x.name = t.name
    · cases eq_of_nodup_map hnd List.mem_cons_self ht hx
      rw [if_pos ((hk t ht).mpr rfl)]
      cases updateTog s t u with
      | error e => rfl
      | ok s' =>
        -- nobody else is called like `t`
        exact tryTogs_none u s' true rest fun y hy => Bool.eq_false_iff.mpr fun hm =>
          hnd'.1 ((hk y (List.mem_cons_of_mem _ hy)).mp hm ▸ List.mem_map_of_mem hy)
    · rw [if_neg (mt (hk x List.mem_cons_self).mp hx)]
      exact ih f ((List.mem_cons.mp ht).resolve_left fun e => hx (e ▸ rfl))
        (fun y hy => hk y (List.mem_cons_of_mem _ hy)) hnd'.2

/-- a toggle cannot be given a value, so the toggles fail or none matches -/
theorem tryTogs_hasValue (u : UI) (hv : u.hasValue = true) (s : Dyn) (f : Bool) (l : List TogD) :
    tryTogs u s f l = .error .user ∨ tryTogs u s f l = .ok (s, f) := by
  induction l with
  | nil => exact .inr rfl
  | cons t rest ih =>
    unfold tryTogs
    by_cases hm : matchesTog t u = true
    · rw [if_pos hm, updateTog_value s t u hv]; exact .inl rfl
    · rw [if_neg hm]; exact ih

/-- What `dispatch` promises for one option-like token. -/
def DispatchOk (d : Decl) (s : Dyn) (tok : Str) (next : Option Str) : Prop :=
  match explainTok d tok next with
  | none =>
    mkUI tok = none ∨
    ∃ u, mkUI tok = some u ∧ u.isDoubleDash = false ∧
      (shortListOk d u = false ∨ ∃ e, tokStep d s u next = .error e)
  | some (it, consumed) =>
    ∃ u, mkUI tok = some u ∧ u.isDoubleDash = false ∧ shortListOk d u = true ∧
      tokStep d s u next = (applyOptItem d s it).map (·, consumed)

section
variable {d : Decl} {s : Dyn} {u : UI} {tok : Str} {next : Option Str}

theorem DispatchOk.of_eq (hmk : mkUI tok = some u) (hdd : u.isDoubleDash = false)
    (hsl : shortListOk d u = true) (h : tokStep d s u next = itemStep d s (explainTok d tok next)) :
    DispatchOk d s tok next := by
  rw [DispatchOk]
  cases hex : explainTok d tok next with
  | none => exact .inr ⟨u, hmk, hdd, .inr ⟨.user, by rw [h, hex]; rfl⟩⟩
  | some p => exact ⟨u, hmk, hdd, hsl, by rw [h, hex]; rfl⟩

/-- what a matching value-taking option does: it takes the value behind `=`, else the next token if
that is a value -/
def valAct (update : Str → Except Err Dyn) (u : UI) (next : Option Str) : Except Err (Dyn × Bool) :=
  if u.hasValue then (update u.theValue).map (·, false)
  else match next with
    | some n => if isValueTok n then (update n).map (·, true) else .error .user
    | none => .error .user

/-- `tryOpts` and `tryMuls` spell `valAct` with the `some` inside -/
theorem some_valAct (update : Str → Except Err Dyn) (u : UI) (next : Option Str) :
    (if u.hasValue then some ((update u.theValue).map (·, false))
     else match next with
      | some n => if isValueTok n then some ((update n).map (·, true)) else some (.error .user)
      | none => some (.error .user)) = some (valAct update u next) := by
  unfold valAct
  by_cases hv : u.hasValue = true
  · rw [if_pos hv, if_pos hv]
  · rw [if_neg hv, if_neg hv]
    cases next with
    | none => rfl
    | some n => by_cases hn : isValueTok n = true <;> simp only [hn, if_true, if_false, Bool.false_eq_true]

theorem tryOpts_find (s : Dyn) (u : UI) (next : Option Str) (l : List OptD) :
    tryOpts s u next l =
      (l.find? fun o => matchesBase o.name o.short u).map fun o => valAct (updateOpt s o) u next := by
  induction l with
  | nil => rfl
  | cons o rest ih =>
    unfold tryOpts
    rw [List.find?_cons]
    by_cases hm : matchesBase o.name o.short u = true
    · rw [if_pos hm, hm]; exact some_valAct (updateOpt s o) u next
    · rw [if_neg hm, ih, Bool.eq_false_iff.mpr hm]

theorem tryMuls_find (s : Dyn) (u : UI) (next : Option Str) (l : List MulD) :
    tryMuls s u next l =
      (l.find? fun m => matchesBase m.name m.short u).map fun m => valAct (updateMul s m) u next := by
  induction l with
  | nil => rfl
  | cons m rest ih =>
    unfold tryMuls
    rw [List.find?_cons]
    by_cases hm : matchesBase m.name m.short u = true
    · rw [if_pos hm, hm]; exact some_valAct (updateMul s m) u next
    · rw [if_neg hm, ih, Bool.eq_false_iff.mpr hm]

/-- `try_parse_as_option` over the options and then the multi-options is one search through the
specification's `valueOpts`: the first that matches takes the value, the toggles come after. -/
theorem tokStep_eq (hnames : (allNames d).Nodup) (s : Dyn) (u : UI) (next : Option Str) :
    tokStep d s u next =
      match (valueOpts d).find? (fun p => matchesBase p.1 p.2 u) with
      | some p => valAct (applyValue d s p.1) u next
      | none => match tryTogs u s false d.togs with
        | .error e => .error e
        | .ok (s', true) => .ok (s', false)
        | .ok (_, false) => .error .user := by
  rw [tokStep, tryOpts_find, tryMuls_find, valueOpts, List.find?_append, List.find?_map, List.find?_map]
  simp only [Function.comp_def]
  cases hfo : d.opts.find? (fun o => matchesBase o.name o.short u) with
  | some o => exact congrArg (valAct · u next) (applyValue_opt hnames s (List.mem_of_find?_eq_some hfo)).symm
  | none =>
    cases hfm : d.muls.find? (fun m => matchesBase m.name m.short u) with
    | some m => exact congrArg (valAct · u next) (applyValue_mul hnames s (List.mem_of_find?_eq_some hfm)).symm
    | none => rfl

/-- the matching value-taking option and the specification's `explainValue` do the same with the value
behind `=` or the next token -/
theorem valAct_eq {n : Str} (sh : Bool) {v : Option Str} (hv : u.hasValue = v.isSome) (htv : u.theValue = v.getD []) :
    valAct (applyValue d s n) u next = itemStep d s (explainValue n sh v next) := by
  unfold valAct explainValue
  rw [hv, htv]
  cases v with
  | some w => rfl
  | none =>
    cases next with
    | none => rfl
    | some nx => by_cases hx : isValueTok nx = true <;> simp only [hx, if_true, if_false, Bool.false_eq_true] <;> rfl

/-- no value-taking option answers and the token has a value: no toggle takes it -/
theorem tokStep_hasValue (hnames : (allNames d).Nodup)
    (hf : (valueOpts d).find? (fun p => matchesBase p.1 p.2 u) = none)
    (hval : u.hasValue = true) : tokStep d s u next = .error .user := by
  rw [tokStep_eq hnames, hf]
  rcases tryTogs_hasValue u hval s false d.togs with h | h <;> rw [h]

end

namespace UI.Long
variable {d : Decl} {s : Dyn} {u : UI} {n : Str} {v next : Option Str}

theorem matchesBase (h : u.Long n v) (name : Str) (short : Option Char) :
    matchesBase name short u = (name == n) := by
  simp only [Opt.matchesBase, UI.isArgument, h.isShort, h.isNamed, h.asNamed, Bool.false_or, Bool.not_true,
    Bool.false_eq_true, if_false, Bool.and_false, if_true]
  exact Bool.beq_comm

theorem shortListOk (h : u.Long n v) (d : Decl) : shortListOk d u = true := by
  simp only [Opt.shortListOk, h.isShort, Bool.not_false, Bool.true_or, if_true]

theorem find?_vals (h : u.Long n v) (d : Decl) :
    (valueOpts d).find? (fun p => Opt.matchesBase p.1 p.2 u) = (valueOpts d).find? (·.1 == n) :=
  congrArg (valueOpts d).find? (funext fun p => h.matchesBase p.1 p.2)

/-- `--n` spells the negation of `t` -/
theorem negates_iff (h : u.Long n v) {t : TogD} :
    (u.hasPrefix && u.nameWithoutPrefix == t.name) = true ↔ noPrefix.isPrefixOf n = true ∧ n.drop 3 = t.name := by
  rw [h.hasPrefix, h.nameWithoutPrefix, Bool.and_eq_true, beq_iff_eq]

theorem matchesTog_iff (h : u.Long n v) {t : TogD} :
    matchesTog t u = true ↔ t.name = n ∨ (noPrefix.isPrefixOf n = true ∧ n.drop 3 = t.name) := by
  rw [matchesTog, Bool.if_true_left, Bool.or_eq_true, decide_eq_true_eq, h.negates_iff, h.matchesBase,
    beq_iff_eq, or_comm]

theorem updateTog_pos (h : u.Long n none) (s : Dyn) {t : TogD}
    (hn : ¬(noPrefix.isPrefixOf n = true ∧ n.drop 3 = t.name)) : updateTog s t u = togPos s t 1 := by
  rw [Opt.updateTog_pos s t u h.hasValue (Bool.eq_false_iff.mpr (mt h.negates_iff.mp hn)), togInc, h.isShort]; rfl

theorem updateTog_neg (h : u.Long n none) (s : Dyn) {t : TogD}
    (hn : noPrefix.isPrefixOf n = true ∧ n.drop 3 = t.name) : updateTog s t u = togNegate s t :=
  Opt.updateTog_neg s t u h.hasValue (h.negates_iff.mpr hn)

/-- the loop's step on `--n[=v]` is the item of `explainLong`, applied -/
theorem tokStep_explain (h : u.Long n v) (hwf : WF d) :
    tokStep d s u next = itemStep d s (explainLong d n v next) := by
  have hfind := h.find?_vals d
  rw [explainLong, isValueOptName, ← List.isSome_find?]
  cases hf : (valueOpts d).find? (·.1 == n) with
  | some p =>
    -- the first value-taking option called `n`
    rw [tokStep_eq hwf.names, hfind.trans hf, if_pos (Option.isSome_some ..),
      ← show p.1 = n by simpa using List.find?_some hf]
    exact valAct_eq false h.hasValue h.theValue
  | none =>
    have hval := hfind.trans hf
    rw [Option.isSome_none, if_neg Bool.false_ne_true]
    cases v with
    | some w =>
      -- a toggle takes no value
      rw [tokStep_hasValue hwf.names hval h.hasValue]
      simp only [Option.isSome_some, if_true, ite_self]; rfl
    | none =>
      have hnd := nodup_togNames hwf.names
      simp only [Option.isSome_none, Bool.false_eq_true, if_false]
      rw [tokStep_eq hwf.names, hval]
      by_cases htn : isTogName d n = true
      · -- `--<toggle>`; no toggle is negated by it, or `n` would be called `no-<toggle>`
        obtain ⟨t, ht, rfl⟩ := isTogName_iff.mp htn
        have hno : ∀ x ∈ d.togs, ¬(noPrefix.isPrefixOf t.name = true ∧ t.name.drop 3 = x.name) :=
          fun x hx ⟨hp, e⟩ => hwf.noPrefixFree hx
            (by rw [← e, noPrefix_drop hp]; exact List.mem_append_right _ (List.mem_map_of_mem ht))
        rw [if_pos htn, tryTogs_one u s false d.togs ht
          (fun x hx => h.matchesTog_iff.trans (or_iff_left (hno x hx))) hnd, h.updateTog_pos s (hno t ht),
          itemStep, applyOptItem, find?_by_key (·.name) d.togs hnd t ht]
        dsimp only
        cases togPos s t 1 <;> rfl
      · rw [if_neg htn]
        have hnn : ∀ x ∈ d.togs, ¬ x.name = n := fun x hx e => htn (isTogName_iff.mpr ⟨x, hx, e⟩)
        by_cases hneg : (noPrefix.isPrefixOf n && isTogName d (n.drop 3)) = true
        · -- `--no-<toggle>`
          obtain ⟨hp, htd⟩ := Bool.and_eq_true_iff.mp hneg
          obtain ⟨t, ht, htn'⟩ := isTogName_iff.mp htd
          rw [if_pos hneg, tryTogs_one u s false d.togs ht (fun x hx => h.matchesTog_iff.trans
            ((or_iff_right (hnn x hx)).trans ((and_iff_right hp).trans (htn' ▸ eq_comm)))) hnd,
            h.updateTog_neg s ⟨hp, htn'.symm⟩, itemStep, applyOptItem, ← htn',
            find?_by_key (·.name) d.togs hnd t ht]
          dsimp only
          cases togNegate s t <;> rfl
        · -- nothing is called that
          rw [if_neg hneg, tryTogs_none u s false d.togs fun x hx => Bool.eq_false_iff.mpr fun hm => ?_]
          · rfl
          · rcases h.matchesTog_iff.mp hm with e | ⟨hp, e⟩
            · exact hnn x hx e
            · exact hneg (Bool.and_eq_true_iff.mpr ⟨hp, isTogName_iff.mpr ⟨x, hx, e.symm⟩⟩)

end UI.Long

namespace UI.Short
variable {d : Decl} {s : Dyn} {u : UI} {ls : Str} {v next : Option Str}

theorem matchesBase_iff (h : u.Short ls v) {name : Str} {short : Option Char} :
    Opt.matchesBase name short u = true ↔ (ls.length ≤ 1 ∨ v = none) ∧ ∃ c ∈ ls, short = some c := by
  cases short with
  | none => simp [Opt.matchesBase, UI.isArgument, h.isShort, h.isNamed]
  | some c => simp [Opt.matchesBase, UI.isArgument, h.isShort, h.shortList, h.hasValue, List.count_pos_iff]

theorem matchesTog_eq (h : u.Short ls none) (t : TogD) : matchesTog t u = hasLetterIn ls t := by
  have hb : matchesTog t u = Opt.matchesBase t.name t.short u := by rw [matchesTog, h.hasPrefix]; rfl
  rw [hb, Bool.eq_iff_iff, h.matchesBase_iff, hasLetterIn_iff]
  simp

theorem tryTogs_eq (h : u.Short ls none) (s : Dyn) (f : Bool) (l : List TogD) :
    tryTogs u s f l = (togsShortFold ls s l).map (·, f || l.any (hasLetterIn ls)) := by
  induction l generalizing s f with
  | nil => simp [tryTogs, togsShortFold, Except.map]
  | cons t rest ih =>
    rw [tryTogs, togsShortFold, h.matchesTog_eq, List.any_cons]
    by_cases ht : hasLetterIn ls t = true
    · have hinc : togInc t u = letterCount t ls := by rw [togInc, h.isShort, h.shortList]; rfl
      rw [if_pos ht, if_pos ht, ht, updateTog_pos s t u h.hasValue (by rw [h.hasPrefix]; rfl), hinc]
      cases togPos s t (letterCount t ls) with
      | error e => rfl
      | ok s' => dsimp only; rw [ih s' true]; simp
    · rw [if_neg ht, if_neg ht, Bool.eq_false_iff.mpr ht, Bool.false_or]
      exact ih s f

/-- `check_short_list` -/
theorem shortListOk_iff (h : u.Short ls v) (d : Decl) :
    shortListOk d u = true ↔ (v = none → 1 < ls.length → ls.all (isTogLetter d) = true) := by
  rw [Opt.shortListOk, h.isShort, h.hasValue, h.shortList]
  cases v with
  | some w => exact iff_of_true rfl nofun
  | none =>
    by_cases hl : ls.length < 2
    · rw [if_neg (by decide), if_pos hl]; exact iff_of_true rfl fun _ h2 => absurd h2 (by omega)
    · rw [if_neg (by decide), if_neg hl]; exact ⟨fun hall _ _ => hall, fun hall => hall rfl (by omega)⟩

/-- what `check_short_list` refuses, a bundle with a letter that is no toggle's, has no explanation -/
theorem explainShort_of_refused (h : u.Short ls v) (hsl : ¬ shortListOk d u = true) :
    explainShort d ls v next = none := by
  rw [h.shortListOk_iff, Classical.not_imp, Classical.not_imp] at hsl
  obtain ⟨rfl, hlen, hall⟩ := hsl
  match ls, hlen with
  | c :: c2 :: r, _ => exact if_neg fun hc => hall (Bool.and_eq_true_iff.mp hc).2

/-- no value-taking option answers: the letters go to the toggles, which take no value -/
theorem tokStep_togs (h : u.Short ls v) (hne : ls ≠ []) (hwf : WF d) (hsl : shortListOk d u = true)
    (hf : (valueOpts d).find? (fun p => Opt.matchesBase p.1 p.2 u) = none) :
    tokStep d s u next =
      itemStep d s (if v.isNone && ls.all (isTogLetter d) then some (.togShort ls, false) else none) := by
  cases v with
  | some w => exact tokStep_hasValue hwf.names hf h.hasValue
  | none =>
    obtain ⟨c, r, rfl⟩ := List.exists_cons_of_ne_nil hne
    rw [tokStep_eq hwf.names, hf]
    by_cases hall : (c :: r).all (isTogLetter d) = true
    · obtain ⟨t, ht, htc⟩ := isTogLetter_iff.mp (List.all_eq_true.mp hall c List.mem_cons_self)
      have hany : d.togs.any (hasLetterIn (c :: r)) = true :=
        List.any_eq_true.mpr ⟨t, ht, hasLetterIn_iff.mpr ⟨c, List.mem_cons_self, htc⟩⟩
      rw [h.tryTogs_eq, hany, hall]
      show _ = (togsShortFold (c :: r) s d.togs).map (·, false)
      cases togsShortFold (c :: r) s d.togs <;> rfl
    · -- `check_short_list` has let it pass, so it is a single letter, and no toggle's
      cases r with
      | cons c2 r => exact absurd ((h.shortListOk_iff d).mp hsl rfl (by simp)) hall
      | nil =>
        rw [tryTogs_none u s false d.togs fun t ht => ?_, Bool.eq_false_iff.mpr hall]
        · rfl
        · rw [h.matchesTog_eq, Bool.eq_false_iff, Ne, hasLetterIn_iff]
          rintro ⟨c', hc', htc⟩
          cases List.mem_singleton.mp hc'
          exact hall (by simpa using isTogLetter_iff.mpr ⟨t, ht, htc⟩)

theorem find?_letter {c : Char} (h : u.Short [c] v) (d : Decl) :
    (valueOpts d).find? (fun p => Opt.matchesBase p.1 p.2 u) = (valueOpts d).find? (·.2 == some c) := by
  refine congrArg (valueOpts d).find? (funext fun p => ?_)
  rw [Bool.eq_iff_iff, h.matchesBase_iff]
  cases p.2 with
  | none => simp
  | some c' => simp

/-- the loop's step on `-ls[=v]`, where `check_short_list` lets it pass, is the item of `explainShort`,
applied -/
theorem tokStep_explain (h : u.Short ls v) (hne : ls ≠ []) (hwf : WF d) (hsl : shortListOk d u = true) :
    tokStep d s u next = itemStep d s (explainShort d ls v next) := by
  obtain ⟨c, r, rfl⟩ := List.exists_cons_of_ne_nil hne
  cases r with
  | nil =>
    -- a single letter: the first value-taking option with that letter, or else the toggle
    rw [explainShort, valueOptOfLetter]
    cases hfc : (valueOpts d).find? (·.2 == some c) with
    | some p =>
      rw [tokStep_eq hwf.names, (h.find?_letter d).trans hfc]
      exact valAct_eq true h.hasValue h.theValue
    | none =>
      rw [h.tokStep_togs hne hwf hsl ((h.find?_letter d).trans hfc)]
      simp only [List.all_cons, List.all_nil, Bool.and_true]; rfl
  | cons c2 r =>
    -- a bundle: no value-taking option answers, with a value because of it, without because
    -- `check_short_list` has seen that every letter is a toggle's
    refine h.tokStep_togs hne hwf hsl (List.find?_eq_none.mpr fun p hp hb => ?_)
    obtain ⟨hlv, c', hc', e⟩ := h.matchesBase_iff.mp hb
    have hall := (h.shortListOk_iff d).mp hsl (hlv.resolve_left (by simp)) (by simp)
    obtain ⟨t, ht, hts⟩ := isTogLetter_iff.mp (List.all_eq_true.mp hall c' hc')
    exact hwf.val_tog_letter hp ht e hts

end UI.Short

/-- **dispatch**: for every option-like token, the parse loop's body and the specification's
explanation agree — the body fails exactly where no explanation exists, and otherwise does to the
parse state what the explained item says and consumes the next token exactly when the item owns it. -/
theorem dispatch (d : Decl) (hwf : WF d) (s : Dyn) (tok : Str) (next : Option Str)
    (hv : isValueTok tok = false) (hd : isDoubleDashTok tok = false) : DispatchOk d s tok next := by
  cases hsh : shapeOf tok with
  | none =>
    rw [DispatchOk, explainTok, hsh]
    exact .inl (mkUI_of_shape_none hv hd hsh)
  | some sh =>
    cases sh with
    | long n v =>
      obtain ⟨u, hmk, hdd, hu⟩ := mkUI_long hsh
      exact .of_eq hmk hdd (hu.shortListOk d) (explainTok_long hsh next ▸ hu.tokStep_explain hwf)
    | short ls v =>
      obtain ⟨u, hmk, hdd, hu⟩ := mkUI_short hsh
      obtain ⟨_, c, r, rfl, _⟩ := shapeOf_short hsh
      by_cases hsl : shortListOk d u = true
      · exact .of_eq hmk hdd hsl (explainTok_short hsh next ▸ hu.tokStep_explain (List.cons_ne_nil c r) hwf hsl)
      · rw [DispatchOk, explainTok_short hsh, hu.explainShort_of_refused hsl]
        exact .inr ⟨u, hmk, hdd, .inl (Bool.eq_false_iff.mpr hsl)⟩

end NitroVerif.Opt
