import NitroVerif.Lemmas.OptSpecInterp
import NitroVerif.Lemmas.OptCheck

/-!
Refinement, part 3b: applying the explained items one after the other keeps, per declared option,
exactly the quantities the specification's `interp` reads off the item list (`Tracks`), and fails
only where `interp` rejects the item list (`Bad`).

In two steps.  What one item does to the pair of one option is a function of that option and the item
alone (`valItem`, `togItem`), and it keeps the pair in agreement with the specification's
counts (`ROpt`, `RMul`, `RTog`: the option, multi-option and toggle clauses of `Tracks`).  And `applyOptItem` does exactly that
to the pair of every declared option at once (`ActsAs`, the counterpart of `validate_spec`).
-/
namespace NitroVerif.Opt

structure Tracks (d : Decl) (items : List Item) (s : Dyn) (pos : List Str) : Prop where
  opt : ∀ o ∈ d.opts, s.val o.name = (cliValues o.name items).head? ∧ (cliValues o.name items).length ≤ 1 ∧
    s.dirtyO o.name = !(cliValues o.name items).isEmpty
  mul : ∀ m ∈ d.muls, s.vals m.name = cliValues m.name items ∧ s.dirtyM m.name = !(cliValues m.name items).isEmpty
  tog : ∀ t ∈ d.togs, s.given t.name = (posCount t items : Int) ∧
    s.dirtyT t.name = (decide (posCount t items > 0) || decide (negCount t items > 0)) ∧
    (negCount t items = 0 ∨ posCount t items = 0) ∧ (negCount t items > 0 → t.reversible = true)
  posEq : pos = positionalsOf items
  room : ∀ n, d.allowed = some n → pos.length ≤ n

/-- item lists `interp` rejects whatever the environment says -/
def Bad (d : Decl) (items : List Item) : Prop :=
  (∃ o ∈ d.opts, (cliValues o.name items).length ≥ 2) ∨
  (∃ t ∈ d.togs, negCount t items > 0 ∧ (t.reversible = false ∨ posCount t items > 0)) ∨
  (∃ n, d.allowed = some n ∧ n < (positionalsOf items).length)

theorem Bad.append {d : Decl} {items : List Item} (h : Bad d items) (more : List Item) : Bad d (items ++ more) := by
  -- each of the three counts only grows
  rcases h with ⟨o, ho, h⟩ | ⟨t, ht, h1, h2⟩ | ⟨n, hn, h⟩
  · left; exact ⟨o, ho, by rw [cliValues_append, List.length_append]; exact Nat.le_trans h (Nat.le_add_right _ _)⟩
  · right; left
    refine ⟨t, ht, by rw [negCount_append]; exact Nat.lt_of_lt_of_le h1 (Nat.le_add_right _ _), ?_⟩
    exact h2.imp id fun h2 => by rw [posCount_append]; exact Nat.lt_of_lt_of_le h2 (Nat.le_add_right _ _)
  · right; right
    exact ⟨n, hn, by rw [positionalsOf_append, List.length_append]; exact Nat.lt_of_lt_of_le h (Nat.le_add_right _ _)⟩

variable {d : Decl} {items : List Item} {s : Dyn} {pos : List Str} {it : Item} {t : TogD} {n : Str}

theorem tracks_init (d : Decl) : Tracks d [] Dyn.fresh [] :=
  ⟨fun _ _ => ⟨rfl, Nat.zero_le _, rfl⟩, fun _ _ => ⟨rfl, rfl⟩, fun _ _ => ⟨rfl, rfl, Or.inl rfl, nofun⟩, rfl,
    fun _ _ => Nat.zero_le _⟩

def ROpt (cs : List Str) (v : Option Str × Bool) : Prop := v.1 = cs.head? ∧ cs.length ≤ 1 ∧ v.2 = !cs.isEmpty

def RMul (cs : List Str) (v : List Str × Bool) : Prop := v.1 = cs ∧ v.2 = !cs.isEmpty

def RTog (t : TogD) (p n : Nat) (v : Int × Bool) : Prop :=
  v.1 = (p : Int) ∧ v.2 = (decide (p > 0) || decide (n > 0)) ∧ (n = 0 ∨ p = 0) ∧ (n > 0 → t.reversible = true)

theorem Tracks.ropt (h : Tracks d items s pos) {o : OptD} (ho : o ∈ d.opts) :
    ROpt (cliValues o.name items) (s.opt o.name) := h.opt o ho

theorem Tracks.rmul (h : Tracks d items s pos) {m : MulD} (hm : m ∈ d.muls) :
    RMul (cliValues m.name items) (s.mul m.name) := h.mul m hm

theorem Tracks.rtog (h : Tracks d items s pos) (ht : t ∈ d.togs) :
    RTog t (posCount t items) (negCount t items) (s.tog t.name) := h.tog t ht

/-- `option::update_value` -/
def optPut (w : Str) (v : Option Str × Bool) : Except Err (Option Str × Bool) :=
  if v.1.isSome then .error .user else .ok (some w, true)

/-- `multi_option::update_value` -/
def mulPut (w : Str) (v : List Str × Bool) : Except Err (List Str × Bool) := .ok (v.1 ++ [w], true)

/-- `toggle::update_value` for `k` positive occurrences at once (none: nothing happens) -/
def posPut (k : Nat) (v : Int × Bool) : Except Err (Int × Bool) :=
  if k > 0 then (if v.2 && v.1 == 0 then .error .user else .ok (v.1 + (k : Int), true)) else .ok v

/-- `toggle::update_value` for `--no-<t>` -/
def negPut (t : TogD) (v : Int × Bool) : Except Err (Int × Bool) :=
  if !t.reversible then .error .user
  else if v.2 && v.1 != 0 then .error .user
  else .ok (0, true)

/-- `put` for the value the item gives to the value-taking option `n`, if it gives one -/
def valItem {σ : Type} (put : Str → σ → Except Err σ) (n : Str) (it : Item) (v : σ) : Except Err σ :=
  match cliValues n [it] with
  | [] => .ok v
  | w :: _ => put w v

def togItem (t : TogD) (it : Item) (v : Int × Bool) : Except Err (Int × Bool) :=
  if it = .togNeg t.name then negPut t v else posPut (posCount t [it]) v

theorem valItem_nil {σ : Type} {put : Str → σ → Except Err σ} (h : cliValues n [it] = [])
    (v : σ) : valItem put n it v = .ok v := by
  unfold valItem; rw [h]

theorem togItem_neg (t : TogD) (v : Int × Bool) : togItem t (.togNeg t.name) v = negPut t v := if_pos rfl

theorem togItem_pos (h : it ≠ .togNeg t.name) (v : Int × Bool) :
    togItem t it v = posPut (posCount t [it]) v := if_neg h

theorem togItem_idle (h : it ≠ .togNeg t.name) (hp : posCount t [it] = 0) (v : Int × Bool) :
    togItem t it v = .ok v := by
  rw [togItem_pos h, hp]; rfl

/-- One item gives an option at most one value. -/
theorem valItem_cases {σ : Type} (put : Str → σ → Except Err σ) (n : Str) (it : Item) (v : σ) :
    (cliValues n [it] = [] ∧ valItem put n it v = .ok v) ∨
    ∃ w, cliValues n [it] = [w] ∧ valItem put n it v = put w v := by
  have : (cliValues n [it]).length ≤ 1 := List.length_filterMap_le _ [it]
  unfold valItem
  match h : cliValues n [it] with
  | [] => exact .inl ⟨rfl, rfl⟩
  | [w] => exact .inr ⟨w, rfl, rfl⟩
  | _ :: _ :: _ => rw [h] at this; exact absurd this (by simp)

/-- The outcome `r` is given by an equation: a caller that knows the outcome passes its equation, and the
`match` reduces to the branch that applies (likewise `posPut_rtog`, `negPut_rtog`, `togItem_tracks`).  The
equation stands behind the colon: as a named hypothesis in front of it, `match r` would take it into its motive. -/
theorem optPut_tracks {v : Option Str × Bool} (h : ROpt (cliValues n items) v)
    {r : Except Err (Option Str × Bool)} :
    valItem optPut n it v = r →
    match r with
    | .ok v' => ROpt (cliValues n (items ++ [it])) v'
    | .error _ => (cliValues n (items ++ [it])).length ≥ 2 := by
  rintro rfl
  obtain ⟨hv, hl, hd⟩ := h
  rw [cliValues_append]
  rcases valItem_cases optPut n it v with ⟨h0, hv0⟩ | ⟨w, h1, hv1⟩
  · rw [hv0, h0, List.append_nil]; exact ⟨hv, hl, hd⟩
  · rw [hv1, h1]
    unfold optPut
    rw [hv]
    -- the option has a value exactly if an earlier item gave it one
    cases cliValues n items with
    | nil => exact ⟨rfl, Nat.le_refl _, rfl⟩
    | cons x xs => exact Nat.succ_le_succ (by simp)

theorem mulPut_tracks {v v' : List Str × Bool} (h : RMul (cliValues n items) v)
    (hv' : valItem mulPut n it v = .ok v') : RMul (cliValues n (items ++ [it])) v' := by
  rw [cliValues_append]
  rcases valItem_cases mulPut n it v with ⟨h0, hv0⟩ | ⟨w, h1, hv1⟩
  · rw [hv0] at hv'; cases hv'; rw [h0, List.append_nil]; exact h
  · rw [hv1] at hv'; cases hv'; rw [h1]; exact ⟨by rw [h.1], by simp⟩

theorem posPut_rtog {p n k : Nat} {v : Int × Bool} (h : RTog t p n v) {r : Except Err (Int × Bool)} :
    posPut k v = r →
    match r with
    | .ok v' => RTog t (p + k) n v'
    | .error _ => n > 0 ∧ k > 0 := by
  rintro rfl
  obtain ⟨hg, hd, hx, hr⟩ := h
  unfold posPut
  by_cases hk : k > 0
  · rw [if_pos hk]
    -- dirty with count 0: the toggle has been negated
    have hneg : (v.2 && v.1 == 0) = true ↔ n > 0 := by
      rw [hd, hg]; simp; omega
    by_cases he : (v.2 && v.1 == 0) = true
    · rw [if_pos he]; exact ⟨hneg.mp he, hk⟩
    · rw [if_neg he]
      have hn0 : n = 0 := by have := mt hneg.mpr he; omega
      exact ⟨by simp [hg], by simp; omega, Or.inl hn0, fun h => by omega⟩
  · rw [if_neg hk, Nat.eq_zero_of_not_pos hk]
    exact ⟨hg, hd, hx, hr⟩

theorem negPut_rtog {p n : Nat} {v : Int × Bool} (h : RTog t p n v) {r : Except Err (Int × Bool)} :
    negPut t v = r →
    match r with
    | .ok v' => RTog t p (n + 1) v'
    | .error _ => t.reversible = false ∨ p > 0 := by
  rintro rfl
  obtain ⟨hg, hd, hx, hr⟩ := h
  unfold negPut
  by_cases hrev : t.reversible = true
  · rw [if_neg (by simp [hrev])]
    -- dirty with a count: the toggle has been given
    have hpos : (v.2 && v.1 != 0) = true ↔ p > 0 := by
      rw [hd, hg]; simp; omega
    by_cases he : (v.2 && v.1 != 0) = true
    · rw [if_pos he]; exact Or.inr (hpos.mp he)
    · rw [if_neg he]
      have hp0 : p = 0 := by have := mt hpos.mpr he; omega
      rw [hp0]
      exact ⟨rfl, by simp, Or.inr rfl, fun _ => hrev⟩
  · rw [if_pos (by simpa using hrev)]
    exact Or.inl (by simpa using hrev)

theorem negCount_single (t : TogD) (it : Item) : negCount t [it] = if it = .togNeg t.name then 1 else 0 := by
  unfold negCount
  by_cases h : it = .togNeg t.name <;> simp [h]

theorem togItem_tracks {v : Int × Bool} (h : RTog t (posCount t items) (negCount t items) v)
    {r : Except Err (Int × Bool)} :
    togItem t it v = r →
    match r with
    | .ok v' => RTog t (posCount t (items ++ [it])) (negCount t (items ++ [it])) v'
    | .error _ => negCount t (items ++ [it]) > 0 ∧ (t.reversible = false ∨ posCount t (items ++ [it]) > 0) := by
  intro hr
  rw [posCount_append, negCount_append, negCount_single]
  by_cases hneg : it = .togNeg t.name
  · subst hneg
    rw [togItem_neg] at hr
    rw [if_pos rfl]
    have := negPut_rtog h hr
    cases r with
    | ok v' => exact this
    | error e => exact ⟨Nat.succ_pos _, this.imp id fun hp => Nat.lt_of_lt_of_le hp (Nat.le_add_right _ _)⟩
  · rw [togItem_pos hneg] at hr
    rw [if_neg hneg]
    have := posPut_rtog h hr
    cases r with
    | ok v' => exact this
    | error e => exact ⟨this.1, .inr (Nat.lt_of_lt_of_le this.2 (Nat.le_add_left _ _))⟩

/-- `r` is what the item `it` makes of the state `s`: the pair of every declared option moves by
`valItem optPut`, `valItem mulPut`, `togItem`, and the item is refused exactly when one of them
refuses it.  (`validate_spec` says the same of `validate_options()`.) -/
inductive ActsAs (d : Decl) (it : Item) (s : Dyn) : Except Err Dyn → Prop
  | ok {s' : Dyn} (ho : ∀ o ∈ d.opts, valItem optPut o.name it (s.opt o.name) = .ok (s'.opt o.name))
      (hm : ∀ m ∈ d.muls, valItem mulPut m.name it (s.mul m.name) = .ok (s'.mul m.name))
      (ht : ∀ t ∈ d.togs, togItem t it (s.tog t.name) = .ok (s'.tog t.name)) : ActsAs d it s (.ok s')
  | optRefuses {o : OptD} (ho : o ∈ d.opts) (h : valItem optPut o.name it (s.opt o.name) = .error .user)
      (e : Err) : ActsAs d it s (.error e)
  | togRefuses {t : TogD} (ht : t ∈ d.togs) (h : togItem t it (s.tog t.name) = .error .user)
      (e : Err) : ActsAs d it s (.error e)

/-- What `ActsAs` means for `Tracks`, the positionals aside. -/
theorem ActsAs.tracks {r : Except Err Dyn} (h : Tracks d items s pos) :
    ActsAs d it s r →
    match r with
    | .ok s' => ∀ pos', pos' = positionalsOf (items ++ [it]) → (∀ n, d.allowed = some n → pos'.length ≤ n) →
        Tracks d (items ++ [it]) s' pos'
    | .error _ => Bad d (items ++ [it]) := by
  intro hacts
  cases hacts with
  | optRefuses ho he => exact .inl ⟨_, ho, optPut_tracks (h.ropt ho) he⟩
  | togRefuses ht he => exact .inr (.inl ⟨_, ht, togItem_tracks (h.rtog ht) he⟩)
  | ok hao ham hat =>
    exact fun pos' hpos hroom => ⟨fun o ho => optPut_tracks (h.ropt ho) (hao o ho),
      fun m hm => mulPut_tracks (h.rmul hm) (ham m hm), fun t ht => togItem_tracks (h.rtog ht) (hat t ht), hpos, hroom⟩

/-- In a list with pairwise distinct keys, a step that rewrites the pair of the element `x` by `fin`,
seen from every element. -/
theorem seen_from {α σ : Type} {key : α → Str} {l : List α} (hnd : (l.map key).Nodup) {x : α} (hx : x ∈ l)
    {view : Dyn → Str → σ} {s s' : Dyn} {fin : α → σ → Except Err σ}
    (hown : fin x (view s (key x)) = .ok (view s' (key x))) (hoth : ∀ m, m ≠ key x → view s' m = view s m) :
    ∀ y ∈ l, (if key x = key y then fin y (view s (key y)) else .ok (view s (key y))) = .ok (view s' (key y)) := by
  intro y hy
  by_cases he : key x = key y
  · rw [if_pos he, ← eq_of_nodup_map hnd hx hy he]; exact hown
  · rw [if_neg he, hoth _ (fun e => he e.symm)]

theorem updateOpt_spec (s : Dyn) (o : OptD) (w : Str) :
    RewritesOpt o.name (optPut w (s.opt o.name)) s (updateOpt s o w) :=
  .ite .refuse (.set rfl rfl ⟨rfl, rfl⟩)

theorem updateMul_spec (s : Dyn) (m : MulD) (w : Str) :
    RewritesMul m.name (mulPut w (s.mul m.name)) s (updateMul s m w) :=
  .set rfl rfl ⟨rfl, rfl⟩

theorem togPos_spec (s : Dyn) (t : TogD) (k : Nat) (hk : k > 0) :
    RewritesTog t.name (posPut k (s.tog t.name)) s (togPos s t k) := by
  unfold posPut; rw [if_pos hk]
  exact .ite .refuse (.set rfl rfl ⟨rfl, rfl⟩)

theorem togNegate_spec (s : Dyn) (t : TogD) : RewritesTog t.name (negPut t (s.tog t.name)) s (togNegate s t) :=
  .ite .refuse (.ite .refuse (.set rfl rfl ⟨rfl, rfl⟩))

theorem valItem_value {σ : Type} (put : Str → σ → Except Err σ) {sh : Bool} {w : Str}
    (hit : it = .optSep n sh w ∨ it = .optEq n sh w) (n' : Str) (v : σ) :
    valItem put n' it v = if n = n' then put w v else .ok v := by
  unfold valItem
  rcases hit with rfl | rfl <;> by_cases h : n = n' <;>
    simp only [cliValues, List.filterMap_cons, List.filterMap_nil, h, if_true, if_false]

/-- `--n w` in any of its spellings. -/
theorem applyValue_acts (hnames : (allNames d).Nodup) (s : Dyn) {sh : Bool} {w : Str}
    (hit : it = .optSep n sh w ∨ it = .optEq n sh w) (hok : isValueOptName d n = true) :
    ActsAs d it s (applyValue d s n w) := by
  have htog : ∀ (t : TogD) v, togItem t it v = .ok v := fun t v => by
    rcases hit with rfl | rfl <;> exact togItem_idle (fun h => Item.noConfusion h) rfl v
  rcases List.mem_append.mp (isValueOptName_iff.mp hok) with hn | hn
  · obtain ⟨o, ho, rfl⟩ := List.mem_map.mp hn
    rw [applyValue_opt hnames s ho]
    have hs := updateOpt_spec s o w
    cases hu : updateOpt s o w with
    | error e => exact .optRefuses ho (by rw [valItem_value _ hit, if_pos rfl]; exact (hs.err hu).2) e
    | ok s' =>
      obtain ⟨hown, hoth, hm, ht⟩ := hs.ok hu
      refine .ok (fun o' ho' => ?_) (fun m hm' => ?_) (fun t _ => by rw [htog, ht])
      · rw [valItem_value _ hit]; exact seen_from (fin := fun _ => optPut w) (nodup_optNames hnames) ho hown hoth o' ho'
      · rw [valItem_value _ hit, if_neg (optName_ne_mulName hnames ho hm'), hm]
  · obtain ⟨m, hm, rfl⟩ := List.mem_map.mp hn
    rw [applyValue_mul hnames s hm]
    obtain ⟨hown, hoth, ho, ht⟩ := (updateMul_spec s m w).ok rfl
    refine .ok (fun o' ho' => ?_) (fun m' hm' => ?_) (fun t _ => by rw [htog, ht])
    · rw [valItem_value _ hit, if_neg (fun e => optName_ne_mulName hnames ho' hm e.symm), ho]
    · rw [valItem_value _ hit]; exact seen_from (fin := fun _ => mulPut w) (nodup_mulNames hnames) hm hown hoth m' hm'

/-- A step on one toggle alone (`--t`, `--no-t`). -/
theorem togOne_acts (hnames : (allNames d).Nodup) (ht : t ∈ d.togs)
    {fin : TogD → Int × Bool → Except Err (Int × Bool)} {r : Except Err Dyn}
    (hs : RewritesTog t.name (fin t (s.tog t.name)) s r) (hc : ∀ n', cliValues n' [it] = [])
    (htog : ∀ (t' : TogD) v, togItem t' it v = if t.name = t'.name then fin t' v else .ok v) :
    ActsAs d it s r := by
  cases hr : r with
  | error e => exact .togRefuses ht (by rw [htog, if_pos rfl]; exact (hs.err hr).2) e
  | ok s' =>
    obtain ⟨hown, hoth, ho, hm⟩ := hs.ok hr
    refine .ok (fun o _ => by rw [valItem_nil (hc _), ho]) (fun m _ => by rw [valItem_nil (hc _), hm])
      (fun t' ht' => ?_)
    rw [htog]; exact seen_from (nodup_togNames hnames) ht hown hoth t' ht'

def shortStep (ls : Str) (s : Dyn) (t : TogD) : Except Err Dyn :=
  if hasLetterIn ls t then togPos s t (letterCount t ls) else .ok s

theorem togsShortFold_eq (ls : Str) (s : Dyn) (l : List TogD) :
    togsShortFold ls s l = foldCheck (shortStep ls) s l := by
  induction l generalizing s with
  | nil => rfl
  | cons t rest ih =>
    unfold togsShortFold foldCheck shortStep
    by_cases h : hasLetterIn ls t = true
    · simp only [h, if_true]
      cases togPos s t (letterCount t ls) with
      | error e => rfl
      | ok s' => exact ih s'
    · simp only [h, Bool.false_eq_true, if_false]
      exact ih s

theorem letterCount_eq (t : TogD) (ls : Str) : letterCount t ls = (posCount t [.togShort ls] : Int) := by
  unfold letterCount posCount; cases t.short <;> rfl

theorem hasLetterIn_eq (t : TogD) (ls : Str) : hasLetterIn ls t = decide (posCount t [.togShort ls] > 0) := by
  unfold hasLetterIn posCount; cases t.short <;> rfl

theorem shortStep_spec (ls : Str) (s : Dyn) (t : TogD) :
    RewritesTog t.name (togItem t (.togShort ls) (s.tog t.name)) s (shortStep ls s t) := by
  unfold shortStep
  rw [togItem_pos (it := .togShort ls) nofun, hasLetterIn_eq, letterCount_eq]
  by_cases hk : posCount t [.togShort ls] > 0
  · rw [if_pos (decide_eq_true hk)]; exact togPos_spec s t _ hk
  · rw [if_neg (by simpa using hk)]
    unfold posPut; rw [if_neg hk]
    exact .keep (.refl s)

theorem applyOptItem_acts (hnames : (allNames d).Nodup) (hok : ItemOk d it) (s : Dyn) :
    ActsAs d it s (applyOptItem d s it) := by
  cases it with
  | pos _ | sep =>
    exact .ok (fun _ _ => valItem_nil rfl _) (fun _ _ => valItem_nil rfl _)
      (fun _ _ => togItem_idle (fun h => Item.noConfusion h) rfl _)
  | optSep n sh w => exact applyValue_acts hnames s (.inl rfl) hok
  | optEq n sh w => exact applyValue_acts hnames s (.inr rfl) hok
  | togLong n =>
    obtain ⟨t, ht, rfl⟩ := isTogName_iff.mp hok
    simp only [applyOptItem, find?_by_key (·.name) d.togs (nodup_togNames hnames) t ht]
    refine togOne_acts (fin := fun _ => posPut 1) hnames ht (togPos_spec s t 1 Nat.one_pos) (fun _ => rfl) (fun t' v => ?_)
    have hp : posCount t' [.togLong t.name] = if t.name = t'.name then 1 else 0 := Nat.add_zero _
    rw [togItem_pos (it := .togLong t.name) nofun, hp]
    by_cases h : t.name = t'.name
    · rw [if_pos h, if_pos h]
    · rw [if_neg h, if_neg h]; rfl
  | togNeg n =>
    obtain ⟨t, ht, rfl⟩ := isTogName_iff.mp hok
    simp only [applyOptItem, find?_by_key (·.name) d.togs (nodup_togNames hnames) t ht]
    refine togOne_acts (fin := negPut) hnames ht (togNegate_spec s t) (fun _ => rfl) (fun t' v => ?_)
    by_cases h : t.name = t'.name
    · rw [if_pos h, h, togItem_neg]
    · rw [if_neg h, togItem_idle (fun e => h (Item.togNeg.inj e)) rfl]
  | togShort ls =>
    show ActsAs _ _ _ (togsShortFold ls s d.togs)
    rw [togsShortFold_eq]
    have hf := foldCheck_spec (shortStep ls) (·.name) Dyn.tog (fun t => togItem t (.togShort ls))
      (Keeps Dyn.opt Dyn.mul) Keeps.refl Keeps.trans (shortStep_spec ls) d.togs (nodup_togNames hnames) s
    cases hfold : foldCheck (shortStep ls) s d.togs with
    | error e => rw [hfold] at hf; obtain ⟨_, t, ht, hte⟩ := hf; exact .togRefuses ht hte e
    | ok s' =>
      rw [hfold] at hf
      obtain ⟨hall, _, ho, hm⟩ := hf
      exact .ok (fun o _ => by rw [valItem_nil rfl, ho]) (fun m _ => by rw [valItem_nil rfl, hm]) hall

theorem applyItem_tracks {d : Decl} (hwf : WF d) {items : List Item} {s : Dyn} {pos : List Str}
    (h : Tracks d items s pos) (it : Item) (hok : ItemOk d it) :
    match applyItem d s pos it with
    | .ok (s', pos') => Tracks d (items ++ [it]) s' pos'
    | .error _ => Bad d (items ++ [it]) := by
  have hopt := ActsAs.tracks h (applyOptItem_acts hwf.names hok s)
  cases it with
  | pos t =>
    unfold applyItem; dsimp only
    by_cases ha : (d.allowed == some pos.length) = true
    · rw [if_pos ha]
      refine Or.inr (Or.inr ⟨pos.length, eq_of_beq ha, ?_⟩)
      rw [positionalsOf_append, ← h.posEq, List.length_append]
      exact Nat.lt_succ_self _
    · rw [if_neg ha]
      refine hopt _ (by rw [positionalsOf_append, ← h.posEq]; rfl) (fun n hn => ?_)
      rw [List.length_append]
      exact Nat.lt_of_le_of_ne (h.room n hn) (fun he => ha (by rw [hn, he]; exact beq_self_eq_true _))
  | _ =>
    unfold applyItem; dsimp only
    cases happ : applyOptItem d s _ with
    | error e => rw [happ] at hopt; exact hopt
    | ok s' =>
      rw [happ] at hopt
      exact hopt pos (by rw [positionalsOf_append, ← h.posEq]; exact (List.append_nil _).symm) h.room

theorem applyItems_tracks (hwf : WF d) (items : List Item) (pre : List Item) (s : Dyn) (pos : List Str)
    (h : Tracks d pre s pos) (hok : ∀ it ∈ items, ItemOk d it) :
    match applyItems d items s pos with
    | .ok (s', pos') => Tracks d (pre ++ items) s' pos'
    | .error _ => Bad d (pre ++ items) := by
  induction items generalizing pre s pos with
  | nil => rw [List.append_nil]; exact h
  | cons it rest ih =>
    have hstep := applyItem_tracks hwf h it (hok it List.mem_cons_self)
    rw [List.append_cons, applyItems]
    cases happ : applyItem d s pos it with
    | error e => rw [happ] at hstep; exact hstep.append rest
    | ok p =>
      rw [happ] at hstep
      exact ih (pre ++ [it]) p.1 p.2 hstep fun x hx => hok x (List.mem_cons_of_mem _ hx)

end NitroVerif.Opt
