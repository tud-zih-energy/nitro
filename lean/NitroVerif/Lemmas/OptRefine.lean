import NitroVerif.Lemmas.OptLoop
import NitroVerif.Lemmas.OptInterp

/-!
Refinement, the theorem: on every declaration the declaration API can produce (long names pairwise
distinct), for every environment and every argument vector, the model of `parser::parse` computes
exactly the specification `specParse` — explain the command line once, interpret the items per option.
Behind it the forms in which the property files use it: `parse` read through `explain` and `interp`.
-/
namespace NitroVerif.Opt

theorem parse_factor (d : Decl) (hnames : (allNames d).Nodup) (env : Env) (argv : List Str) :
    parse d env argv = specParse d env argv := by
  unfold parse parseOn specParse explain
  by_cases hc : consistent d = true
  · have hwf : WF d := ⟨hnames, hc⟩
    simp only [hc, Bool.not_true, Bool.false_eq_true, if_false]
    have hlf := loop_factor d hwf argv ⟨Dyn.fresh, [], false⟩
    cases hex : explainGo d false argv with
    | none =>
      rw [hex] at hlf
      cases hloop : loop d ⟨Dyn.fresh, [], false⟩ argv with
      | error e => rw [loop_err argv _ hloop]
      | ok st => rw [hloop] at hlf; cases hlf
    | some items =>
      rw [hex] at hlf
      -- what the loop returns is what applying the items returns: a state that tracks them, or they are bad
      have htr := applyItems_tracks hwf items [] Dyn.fresh [] (tracks_init d) (explainGo_itemOk argv false items hex)
      dsimp only at hlf ⊢
      rw [List.nil_append, ← hlf] at htr
      cases hloop : loop d ⟨Dyn.fresh, [], false⟩ argv with
      | error e =>
        rw [hloop] at htr
        rw [loop_err argv _ hloop]
        exact (interp_of_bad d env items htr).symm
      | ok st =>
        rw [hloop] at htr
        rw [interp_of_tracks d hwf env items st.dyn st.pos htr]
        dsimp only
        cases validate d env st.dyn <;> rfl
  · rw [Bool.eq_false_iff.mpr hc]; rfl

theorem parse_of_inconsistent {d : Decl} (h : consistent d = false) (env : Env) (argv : List Str) :
    parse d env argv = .error .dev := by
  unfold parse parseOn; rw [h]; rfl

theorem parse_of_explain (d : Decl) (hn : (allNames d).Nodup) (hc : consistent d = true) (env : Env)
    (argv : List Str) (items : List Item) (hex : explain d argv = some items) :
    parse d env argv = interp d env items := by
  rw [parse_factor d hn]; unfold specParse; simp [hc, hex]

theorem parse_of_unexplained (d : Decl) (hn : (allNames d).Nodup) (hc : consistent d = true) (env : Env)
    (argv : List Str) (hex : explain d argv = none) : parse d env argv = .error .user := by
  rw [parse_factor d hn]; unfold specParse; simp [hc, hex]

theorem parse_ok_inv (d : Decl) (hn : (allNames d).Nodup) (env : Env) (argv : List Str) (r : Result)
    (h : parse d env argv = .ok r) : ∃ items, explain d argv = some items ∧ interp d env items = .ok r := by
  cases hc : consistent d with
  | false => rw [parse_of_inconsistent hc] at h; cases h
  | true =>
    cases hex : explain d argv with
    | none => rw [parse_of_unexplained d hn hc env argv hex] at h; cases h
    | some items => exact ⟨items, rfl, parse_of_explain d hn hc env argv items hex ▸ h⟩

theorem interp_of_parse_ok (d : Decl) (hn : (allNames d).Nodup) {env : Env} {argv : List Str} {items : List Item}
    {r : Result} (hex : explain d argv = some items) (h : parse d env argv = .ok r) : interp d env items = .ok r := by
  obtain ⟨items', hex', hi⟩ := parse_ok_inv d hn env argv r h
  cases hex.symm.trans hex'
  exact hi

end NitroVerif.Opt
