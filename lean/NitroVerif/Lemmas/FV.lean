import NitroVerif.Model.FV

/-!
Lemmas for the fixed_vector engine, in two layers, below the safety invariant `VInv` and what C06 asks of
an operation's outcome (`Safe`).

For every throw point (C06): slot accesses inside the allocation succeed and keep capacity, size and slot
count (`Kept`; `wr_*`, `mv_*`), and so do the shifting loops (`Shifted`).  An operation is a chain of failing
preconditions, element operations that may throw and writes; `VInv.guard`, `VInv.tick` and `VInv.wr` carry `Safe`
along such a chain, so that the proof for an operation reads like its definition (`rangeGo_safe`, Props/C06).

When nothing throws (C07): a vector that satisfies the invariant is its live elements `E` followed by
its free slots `F` (`ofLists`, `exists_ofLists`), and on that form every operation has a closed form
on the two lists (`*_ofLists`).
-/
namespace NitroVerif.FV

/-- Safety invariant: holds after every operation, also one that ended in an
element exception. -/
def VInv (v : Vec) : Prop := v.size ≤ v.cap ∧ v.slots.length = v.cap

instance (v : Vec) : Decidable (VInv v) := by unfold VInv; infer_instance

/-- Every slot of the live range holds an element the caller put there. -/
def Filled (v : Vec) : Prop := ∀ s ∈ v.slots.take v.size, s ≠ Slot.stale

theorem inv_fresh (cap : Nat) : VInv (fresh cap) := ⟨Nat.zero_le _, List.length_replicate⟩

theorem filled_fresh (cap : Nat) : Filled (fresh cap) := by simp [Filled, fresh]

/-- What C06 asks of the outcome `o` of an operation on `v`: the invariant holds, no slot outside
the allocation was touched, the capacity is that of `v`. -/
structure Safe (v : Vec) (o : Vec × Res) : Prop where
  inv : VInv o.1
  no_ub : o.2 ≠ .ub
  cap : o.1.cap = v.cap

/-- `w` has the capacity, size and slot count of `v`: what slot accesses leave alone. -/
structure Kept (v w : Vec) : Prop where
  cap : w.cap = v.cap
  size : w.size = v.size
  length : w.slots.length = v.slots.length

namespace Kept

theorem rfl {v : Vec} : Kept v v := ⟨.refl _, .refl _, .refl _⟩

theorem trans {u v w : Vec} (a : Kept u v) (b : Kept v w) : Kept u w :=
  ⟨b.cap.trans a.cap, b.size.trans a.size, b.length.trans a.length⟩

/-- An outcome that has only accessed slots and set the size to `n` (`n := w.size`: `w` itself). -/
theorem safe {v w : Vec} {r : Res} {n : Nat} (s : Kept v w) (h : VInv v) (hr : r ≠ .ub)
    (hn : n ≤ v.cap) : Safe v ({ w with size := n }, r) :=
  ⟨⟨s.cap ▸ hn, s.length.trans (h.2.trans s.cap.symm)⟩, hr, s.cap⟩

end Kept

theorem index_eq {v : Vec} {key : Nat} (h : key < v.slots.length) :
    index v key = .elem v.slots[key] := by
  rw [index, rd, List.getElem?_eq_getElem h]

theorem atKey_eq {v : Vec} {key : Nat} (h : VInv v) (hk : key < v.size) :
    atKey v key = index v key := by
  have := h.1
  rw [atKey, if_neg (by omega), if_neg (by omega), index]

theorem atKey_oob {v : Vec} {key : Nat} (h : key ≥ v.size) : atKey v key = .raised := by
  rw [atKey, if_pos h, ite_self]

theorem wr_some {v : Vec} {i : Nat} {x : Slot} (h : i < v.slots.length) :
    wr v i x = some { v with slots := v.slots.set i x } := if_pos h

theorem wr_isSome {v : Vec} {i : Nat} {x : Slot} : (wr v i x).isSome ↔ i < v.slots.length := by
  unfold wr; split <;> simp_all

theorem mv_some {v : Vec} {d s : Nat} (hd : d < v.slots.length) (hs : s < v.slots.length) :
    mv v d s = some { v with slots := (v.slots.set d v.slots[s]).set s .stale } := by
  simp [mv, rd, wr, hd, hs]

theorem mv_eq_none {v : Vec} {d s : Nat} :
    mv v d s = none ↔ v.slots.length ≤ d ∨ v.slots.length ≤ s := by
  by_cases hs : s < v.slots.length <;> by_cases hd : d < v.slots.length <;>
    simp [mv, rd, wr, hs, hd, Nat.le_of_not_lt]

theorem mv_kept {v v' : Vec} {d s : Nat} (h : mv v d s = some v') : Kept v v' := by
  have hb : ¬(v.slots.length ≤ d ∨ v.slots.length ≤ s) := fun hb => by
    rw [mv_eq_none.2 hb] at h; cases h
  rw [mv_some (by omega) (by omega)] at h
  cases h
  exact ⟨rfl, rfl, by rw [List.length_set, List.length_set]⟩

/-- What a shifting loop started on `v` leaves behind, at every throw point; it leaves the allocation
only if `oob`. -/
structure Shifted (v : Vec) (oob : Prop) (w : Vec) (r : Res) : Prop extends Kept v w where
  not_raised : r ≠ .raised
  oob_of_ub : r = .ub → oob

namespace Shifted

theorem stop {v : Vec} {oob : Prop} {r : Res} (hr : r ≠ .raised) (hu : r = .ub → oob) :
    Shifted v oob v r := ⟨.rfl, hr, hu⟩

theorem step {v v' w : Vec} {d s : Nat} {p q : Prop} {r : Res} (hm : mv v d s = some v')
    (h : Shifted v' p w r) (hpq : v'.slots.length = v.slots.length → p → q) : Shifted v q w r :=
  ⟨(mv_kept hm).trans h.toKept, h.not_raised, fun hr => hpq (mv_kept hm).length (h.oob_of_ub hr)⟩

end Shifted

theorem shiftL_outcome {v w : Vec} {key n : Nat} {fuel : Option Nat} {r : Res}
    (e : shiftL v key n fuel = (w, r)) : Shifted v (v.slots.length ≤ key + n) w r := by
  fun_induction shiftL v key n fuel with
  | case1 => cases e; exact .stop nofun nofun  -- done
  | case2 => cases e; exact .stop nofun nofun  -- threw
  | case3 v key n fuel f _ hm =>  -- move outside
    cases e
    exact .stop nofun fun _ => by have := mv_eq_none.1 hm; omega
  | case4 v key n fuel f _ v' hm ih => exact (ih e).step hm (by omega)

theorem shiftR_outcome {v w : Vec} {hi n : Nat} {fuel f : Option Nat} {r : Res}
    (e : shiftR v hi n fuel = (w, r, f)) : Shifted v (v.slots.length ≤ hi ∨ hi < n) w r := by
  fun_induction shiftR v hi n fuel with
  | case1 => cases e; exact .stop nofun nofun  -- done
  | case2 => cases e; exact .stop nofun nofun  -- threw
  | case3 => cases e; exact .stop nofun fun _ => by omega  -- no slot in front of slot 0
  | case4 v n fuel f _ hi hm =>  -- move outside
    cases e
    exact .stop nofun fun _ => by have := mv_eq_none.1 hm; omega
  | case5 v n fuel f _ hi v' hm ih => exact (ih e).step hm (by omega)

/-! The operations are made of a few kinds of step; `Safe` of an outcome of `v` follows them. -/
namespace VInv
variable {v : Vec} (h : VInv v)
include h

theorem same {r : Res} (hr : r ≠ .ub) : Safe v (v, r) := ⟨h, hr, rfl⟩

/-- A precondition that fails: the library's exception, nothing touched. -/
theorem guard {c : Prop} [Decidable c] {o : Vec × Res} (ho : ¬c → Safe v o) :
    Safe v (if c then (v, .raised) else o) := by
  split
  · exact h.same nofun
  · exact ho ‹_›

/-- An element operation that may throw, `w` being what the slot accesses so far have made of `v`. -/
theorem tick {w : Vec} {fuel : Option Nat} {k : Option Nat → Vec × Res} (s : Kept v w)
    (hk : ∀ f, Safe v (k f)) :
    Safe v (match FV.tick fuel with | none => (w, .threw) | some f => k f) := by
  cases FV.tick fuel with
  | none => exact s.safe h nofun (s.size ▸ h.1)
  | some f => exact hk f

/-- A write inside the allocation. -/
theorem wr {w : Vec} {i : Nat} {x : Slot} {k : Vec → Vec × Res} (s : Kept v w) (hi : i < v.cap)
    (hk : ∀ w', Kept v w' → Safe v (k w')) :
    Safe v (match FV.wr w i x with | none => (w, .ub) | some w' => k w') := by
  rw [wr_some (by have := s.length; have := h.2; omega)]
  exact hk _ (s.trans ⟨rfl, rfl, List.length_set⟩)

end VInv

/-- The loop of the range insert, from any position: it checks the capacity before every write. -/
theorem rangeGo_safe (v : Vec) (key : Nat) (xs : List Slot) (fuel : Option Nat) (h : VInv v) :
    Safe v (rangeGo v key xs fuel) := by
  induction xs generalizing v key fuel with
  | nil => exact h.same nofun
  | cons x xs ih =>
    refine h.guard fun _ => h.tick .rfl fun f => h.wr .rfl (by omega) fun w s => ?_
    -- the loop goes on from `w` with the size it had or one more: a vector that is safe for `v`
    have next : ∀ n, n ≤ v.cap → Safe v (rangeGo { w with size := n } (key + 1) xs f) := fun n hn =>
      have s' := s.safe h (r := .ok) nofun hn
      have t := ih _ _ _ s'.inv
      ⟨t.inv, t.no_ub, t.cap.trans s'.cap⟩
    have := h.1
    split
    · exact next _ (by omega)
    · exact next w.size (by have := s.size; omega)

theorem mv_left (c z : Nat) (A : List Slot) (a b : Slot) (C : List Slot) :
    mv ⟨c, z, A ++ a :: b :: C⟩ A.length (A.length + 1) =
      some ⟨c, z, A ++ b :: Slot.stale :: C⟩ := by
  rw [mv_some (by simp) (by simp)]
  simp

theorem mv_right (c z : Nat) (A : List Slot) (a b : Slot) (C : List Slot) :
    mv ⟨c, z, A ++ a :: b :: C⟩ (A.length + 1) A.length =
      some ⟨c, z, A ++ Slot.stale :: a :: C⟩ := by
  rw [mv_some (by simp) (by simp)]
  simp

theorem shiftL_decomp (c z : Nat) (A : List Slot) (a : Slot) (B C : List Slot) :
    shiftL ⟨c, z, A ++ a :: (B ++ C)⟩ A.length B.length none =
      (⟨c, z, A ++ (B ++ (if B = [] then a else Slot.stale) :: C)⟩, .ok) := by
  induction B generalizing A a with
  | nil => simp [shiftL]
  | cons b B ih =>
    -- one move puts `b` in front and leaves a moved-from slot in place of `a`
    have := ih (A ++ [b]) .stale
    simp only [List.length_append, List.length_cons, List.length_nil, List.append_assoc,
      List.cons_append, List.nil_append] at this
    rw [List.length_cons, shiftL, tick]
    simp only [List.cons_append, mv_left, this]
    simp

theorem shiftR_decomp (c z : Nat) (A B : List Slot) (x : Slot) (C : List Slot) :
    shiftR ⟨c, z, A ++ (B ++ x :: C)⟩ (A.length + B.length) B.length none =
      (⟨c, z, A ++ ((if B = [] then x else Slot.stale) :: (B ++ C))⟩, .ok, none) := by
  -- the loop takes the elements of `B` from its end
  induction hn : B.length generalizing B x C with
  | zero => cases List.eq_nil_of_length_eq_zero hn; simp [shiftR]
  | succ n ih =>
    rcases List.eq_nil_or_concat B with rfl | ⟨B, b, rfl⟩
    · cases hn
    · have hB : B.length = n := by simpa using hn
      have e : A ++ (B.concat b ++ x :: C) = (A ++ B) ++ b :: x :: C := by simp
      have hl : A.length + (n + 1) = (A ++ B).length + 1 := by simp [hB]; omega
      rw [e, hl, shiftR, tick]
      simp only [mv_right]
      rw [List.append_assoc, List.length_append, hB, ih B .stale (b :: C) hB]
      simp

def ofLists (E F : List Slot) : Vec := ⟨E.length + F.length, E.length, E ++ F⟩

@[simp] theorem cap_ofLists (E F : List Slot) : (ofLists E F).cap = E.length + F.length := rfl

@[simp] theorem size_ofLists (E F : List Slot) : (ofLists E F).size = E.length := rfl

@[simp] theorem elems_ofLists (E F : List Slot) : elems (ofLists E F) = E := List.take_left

theorem exists_ofLists {v : Vec} (h : VInv v) : ∃ E F, v = ofLists E F := by
  obtain ⟨c, z, l⟩ := v
  obtain ⟨h1, h2⟩ : z ≤ c ∧ l.length = c := h
  subst h2
  refine ⟨l.take z, l.drop z, ?_⟩
  simp only [ofLists, List.take_append_drop, List.length_take, List.length_drop]
  congr <;> omega

theorem fresh_eq_ofLists (cap : Nat) : fresh cap = ofLists [] (List.replicate cap .stale) := by
  rw [fresh, ofLists, List.length_nil, Nat.zero_add, List.length_replicate, List.nil_append]

theorem exists_split_of_le {l : List Slot} {i : Nat} (h : i ≤ l.length) :
    ∃ A B, l = A ++ B ∧ A.length = i :=
  ⟨l.take i, l.drop i, (List.take_append_drop i l).symm, List.length_take_of_le h⟩

theorem exists_split_of_lt {l : List Slot} {i : Nat} (h : i < l.length) :
    ∃ A a B, l = A ++ a :: B ∧ A.length = i :=
  ⟨l.take i, l[i], l.drop (i + 1), by rw [← List.drop_eq_getElem_cons h, List.take_append_drop],
    List.length_take_of_le (Nat.le_of_lt h)⟩

theorem index_ofLists {E F : List Slot} {key : Nat} (hk : key < E.length) :
    index (ofLists E F) key = .elem E[key] := by
  rw [index, rd, ofLists, List.getElem?_append_left hk, List.getElem?_eq_getElem hk]

/-- `emplace_back` differs from the other appends only in the number of element operations. -/
theorem emplaceBack_none (v : Vec) (x : Nat) : emplaceBack v x none = append1 v x none := rfl

theorem append1_ofLists (E : List Slot) (y : Slot) (F : List Slot) (x : Nat) :
    append1 (ofLists E (y :: F)) x none = (ofLists (E ++ [.val x]) F, .ok) := by
  simp +arith [append1, ofLists, tick, wr]

/-- Range insert at a position of the live range: the range overwrites the tail `B` of the live
range, then fills free slots, as far as the capacity reaches. -/
theorem rangeGo_ofLists (A B F xs : List Slot) :
    rangeGo (ofLists (A ++ B) F) A.length xs none =
      (ofLists (A ++ xs.take (B.length + F.length) ++ B.drop xs.length)
          (F.drop (xs.length - B.length)),
        if xs.length ≤ B.length + F.length then .ok else .raised) := by
  induction xs generalizing A B F with
  | nil => simp [rangeGo]
  | cons x xs ih =>
    match B, F with
    | [], [] => simp [rangeGo, ofLists]
    | [], y :: F =>
      have step : rangeGo (ofLists (A ++ []) (y :: F)) A.length (x :: xs) none =
          rangeGo (ofLists ((A ++ [x]) ++ []) F) (A ++ [x]).length xs none := by
        simp +arith [rangeGo, ofLists, tick, wr]
      rw [step, ih]
      simp
    | b :: B, F =>
      have step : rangeGo (ofLists (A ++ b :: B) F) A.length (x :: xs) none =
          rangeGo (ofLists ((A ++ [x]) ++ B) F) (A ++ [x]).length xs none := by
        simp +arith [rangeGo, ofLists, tick, wr]
      rw [step, ih]
      simp +arith

theorem emplaceAt_ofLists (A B : List Slot) (y : Slot) (F : List Slot) (x : Nat) :
    emplaceAt (ofLists (A ++ B) (y :: F)) A.length x none =
      (ofLists (A ++ .val x :: B) F, .ok) := by
  simp only [emplaceAt, ofLists, List.append_assoc, List.length_append, Nat.add_sub_cancel_left,
    shiftR_decomp, tick]
  simp +arith [wr]

theorem erase_ofLists (A : List Slot) (a : Slot) (B F : List Slot) :
    erase (ofLists (A ++ a :: B) F) A.length none =
      (ofLists (A ++ B) ((if B = [] then a else .stale) :: F), .ok) := by
  have e : (A ++ a :: B).length - 1 - A.length = B.length := by simp +arith
  simp only [erase, ofLists, e, List.append_assoc, List.cons_append, shiftL_decomp]
  simp +arith

theorem popBack_ofLists (E : List Slot) (a : Slot) (F : List Slot) :
    popBack (ofLists (E ++ [a]) F) = (ofLists E (a :: F), .ok) := by
  simp +arith [popBack, ofLists]

theorem resolveL_range {l : List Slot} {a : AOp} {pos : Nat} {xs : List Nat}
    (h : resolveL l a = some (.range pos xs)) : a = .plain (.range pos xs) := by
  cases a with
  | plain op => cases h; rfl
  | _ => simp only [resolveL] at h; split at h <;> cases h

end NitroVerif.FV
