import NitroVerif.Model.Str
import NitroVerif.Spec.Str

/-!
What C17, C08 and the usage lemmas use of the string engine: the equations of `glue` and `joinGo` and what the
loop of `join` computes (`joinGo_spec`), `find?` returns the leftmost occurrence (`find?_spec` and its
corollaries), the unfolding equations of the two loops (`splitGo_eq`, `replaceGo_eq`), and the two specification
scans restated as jumps to `find?`'s hit (`countOcc_of_find?`, `replaceSpec_of_find?`).
-/
namespace NitroVerif.Str

variable {α : Type}

theorem glue_cons_of_ne_nil (sep x : List α) {l : List (List α)} (h : l ≠ []) :
    glue sep (x :: l) = x ++ sep ++ glue sep l := by
  cases l with
  | nil => exact absurd rfl h
  | cons y rest => rfl

theorem joinGo_nil_cons (sep : List α) (b : Bool) (xs : List (List α)) :
    joinGo sep b ([] :: xs) = joinGo sep b xs := by
  simp [joinGo]

theorem joinGo_cons (sep : List α) (b : Bool) {x : List α} (hx : x ≠ []) (xs : List (List α)) :
    joinGo sep b (x :: xs) = (if b then x else sep ++ x) ++ joinGo sep false xs := by
  simp [joinGo, hx]

theorem glue_eq_head_flatten (sep x : List α) (l : List (List α)) :
    glue sep (x :: l) = x ++ (l.map (sep ++ ·)).flatten := by
  induction l generalizing x with
  | nil => simp [glue]
  | cons y l ih => simp [glue, ih]

theorem glue_nil (xs : List (List α)) : glue [] xs = xs.flatten := by
  cases xs with
  | nil => rfl
  | cons x xs => simp [glue_eq_head_flatten]

/-- The loop of `join` for either value of its `first` flag: only the non-empty elements count, and
each but the very first is preceded by the separator. -/
theorem joinGo_spec (sep : List α) (b : Bool) (xs : List (List α)) :
    joinGo sep b xs =
      if b then glue sep (xs.filter (· ≠ [])) else ((xs.filter (· ≠ [])).map (sep ++ ·)).flatten := by
  induction xs generalizing b with
  | nil => cases b <;> rfl
  | cons x xs ih =>
    by_cases hx : x = []
    · rw [hx, joinGo_nil_cons, ih, List.filter_cons_of_neg (by simp)]
    · rw [joinGo_cons _ _ hx, ih, List.filter_cons_of_pos (by simpa using hx), glue_eq_head_flatten]
      cases b <;> rfl

variable [DecidableEq α]

theorem find?_spec (hay needle : List α) :
    (∀ i, find? hay needle = some i → needle <+: hay.drop i ∧ ∀ j < i, ¬ needle <+: hay.drop j) ∧
    (find? hay needle = none → ∀ j, ¬ needle <+: hay.drop j) := by
  fun_induction find? hay needle with
  | case1 => exact ⟨fun i hi => by cases hi; exact ⟨List.prefix_rfl, nofun⟩, nofun⟩
  | case2 needle hn => exact ⟨nofun, fun _ j h => hn (by simpa using h)⟩
  | case3 c cs needle hp => exact ⟨fun i hi => by cases hi; exact ⟨List.isPrefixOf_iff_prefix.mp hp, nofun⟩, nofun⟩
  | case4 c cs needle hp ih =>
    have h0 : ¬ needle <+: c :: cs := fun h => hp (List.isPrefixOf_iff_prefix.mpr h)
    constructor
    · intro i hi
      obtain ⟨k, hk, rfl⟩ := Option.map_eq_some_iff.mp hi
      refine ⟨(ih.1 k hk).1, fun j hj => ?_⟩
      cases j with
      | zero => exact h0
      | succ j => exact (ih.1 k hk).2 j (by omega)
    · intro hnone j
      cases j with
      | zero => exact h0
      | succ j => exact ih.2 (Option.map_eq_none_iff.mp hnone) j

theorem find?_leftmost {hay needle : List α} {i : Nat} (h : find? hay needle = some i) :
    ∀ j < i, ¬ needle <+: hay.drop j :=
  ((find?_spec hay needle).1 i h).2

theorem find?_some_split {hay needle : List α} {i : Nat} (h : find? hay needle = some i) :
    hay = hay.take i ++ needle ++ hay.drop (i + needle.length) := by
  obtain ⟨t, ht⟩ := ((find?_spec hay needle).1 i h).1
  have : t = hay.drop (i + needle.length) := by
    rw [← List.drop_drop, ← ht, List.drop_left]
  rw [List.append_assoc, ← this, ht, List.take_append_drop]

theorem find?_none_iff {hay needle : List α} :
    find? hay needle = none ↔ ¬ needle <:+: hay := by
  constructor
  · rintro h ⟨s, t, rfl⟩
    exact (find?_spec _ needle).2 h s.length (by simp)
  · intro h
    cases hf : find? hay needle with
    | none => rfl
    | some i => exact absurd ⟨_, _, (find?_some_split hf).symm⟩ h

theorem find?_take_none {hay needle : List α} {i : Nat} (hn : needle ≠ [])
    (h : find? hay needle = some i) : find? (hay.take i) needle = none := by
  rw [find?_none_iff]
  rintro ⟨s, t, hst⟩
  have hlen : s.length + needle.length + t.length ≤ i := by
    have := congrArg List.length hst
    simp at this; omega
  have hpos : 0 < needle.length := List.length_pos_iff.mpr hn
  -- an occurrence inside `hay.take i` is an occurrence in `hay` at an earlier position
  refine find?_leftmost h s.length (by omega) ⟨t ++ hay.drop i, ?_⟩
  have : hay = s ++ needle ++ t ++ hay.drop i := by rw [hst, List.take_append_drop]
  conv => rhs; rw [this]
  simp

theorem splitGo_eq (needle : List α) (hn : needle ≠ []) (rest : List α) :
    splitGo needle hn rest =
      match find? rest needle with
      | some pos => rest.take pos :: splitGo needle hn (rest.drop (pos + needle.length))
      | none => [rest] := by
  rw [splitGo]
  split <;> simp_all

theorem replaceGo_eq (pat : List α) (hn : pat ≠ []) (rep rest : List α) :
    replaceGo pat hn rep rest =
      match find? rest pat with
      | some pos => rest.take pos ++ rep ++ replaceGo pat hn rep (rest.drop (pos + pat.length))
      | none => rest := by
  rw [replaceGo]
  split <;> simp_all

theorem splitGo_ne_nil (needle : List α) (hn : needle ≠ []) (rest : List α) :
    splitGo needle hn rest ≠ [] := by
  rw [splitGo_eq]; split <;> simp

theorem mem_of_mem_splitGo (sep : List α) (hn : sep ≠ []) (s w : List α) (c : α)
    (hw : w ∈ splitGo sep hn s) (hc : c ∈ w) : c ∈ s := by
  fun_induction splitGo sep hn s with
  | case1 rest pos h ih =>
    rcases List.mem_cons.mp hw with rfl | hw
    · exact List.mem_of_mem_take hc
    · exact List.mem_of_mem_drop (ih hw)
  | case2 rest h => rwa [List.mem_singleton.mp hw] at hc

theorem countOcc_of_find? (needle : List α) (hn : needle ≠ []) (hay : List α) :
    countOcc needle hn hay =
      match find? hay needle with
      | some pos => 1 + countOcc needle hn (hay.drop (pos + needle.length))
      | none => 0 := by
  fun_induction find? hay needle with
  | case1 => exact absurd rfl hn
  | case2 needle _ => rw [countOcc]
  | case3 c cs needle hp =>
    rw [countOcc, if_pos hp]
    simp only [Nat.zero_add]
  | case4 c cs needle hp ih =>
    rw [countOcc, if_neg hp, ih]
    cases find? cs needle with
    | none => rfl
    | some j =>
      simp only [Option.map_some]
      rw [Nat.add_right_comm, List.drop_succ_cons]

theorem replaceSpec_of_find? (pat : List α) (hn : pat ≠ []) (rep hay : List α) :
    replaceSpec pat hn rep hay =
      match find? hay pat with
      | some pos => hay.take pos ++ rep ++ replaceSpec pat hn rep (hay.drop (pos + pat.length))
      | none => hay := by
  fun_induction find? hay pat with
  | case1 => exact absurd rfl hn
  | case2 pat _ => rw [replaceSpec]
  | case3 c cs pat hp =>
    rw [replaceSpec, if_pos hp]
    simp only [Nat.zero_add, List.take_zero, List.nil_append]
  | case4 c cs pat hp ih =>
    rw [replaceSpec, if_neg hp, ih]
    cases find? cs pat with
    | none => rfl
    | some j =>
      simp only [Option.map_some]
      rw [Nat.add_right_comm, List.drop_succ_cons]
      rfl

end NitroVerif.Str
