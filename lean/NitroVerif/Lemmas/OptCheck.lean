import NitroVerif.Lemmas.OptItems

/-!
Refinement, part 3a: `validate_options()` as a pure function of each option's own state.

The C++ keeps `value_` (`given_` for a toggle) and `dirty_` in the option object; the model keeps them
in two of the state's maps at the option's name (`Dyn.opt`, `Dyn.mul`, `Dyn.tog` read the pair).  Every function that
changes the parse state rewrites the pair of one option and leaves every other pair alone (`Rewrites`).
-/
namespace NitroVerif.Opt

theorem upd_same {β : Type} (f : Str → β) (k : Str) (v : β) : upd f k v k = v := if_pos rfl
theorem upd_other {β : Type} (f : Str → β) (k n : Str) (v : β) (h : n ≠ k) : upd f k v n = f n := if_neg h

theorem upd_self {β : Type} (f : Str → β) (k : Str) : f = upd f k (f k) := by
  funext n
  by_cases h : n = k
  · rw [h, upd_same]
  · rw [upd_other _ _ _ _ h]

/-- what `option::check` leaves in the option's value and its provided-flag -/
def optFinal (env : Env) (o : OptD) (v : Option Str) (dirty : Bool) : Except Err (Option Str × Bool) :=
  if v.isSome then .ok (v, dirty)
  else if envOf env o.env != [] then .ok (some (envOf env o.env), true)
  else match o.dflt with
    | some dv => .ok (some dv, dirty)
    | none => if o.optional then .ok (v, dirty) else .error .user

def mulFinal (env : Env) (m : MulD) (vs : List Str) (dirty : Bool) : Except Err (List Str × Bool) :=
  if vs != [] then .ok (vs, dirty)
  else if envOf env m.env != [] then .ok (splitSemi (envOf env m.env), dirty || splitSemi (envOf env m.env) != [])
  else match m.dflt with
    | some dv => .ok (dv, dirty)
    | none => if m.optional then .ok (vs, dirty) else .error .user

def togFinal (env : Env) (t : TogD) (g : Int) (dirty : Bool) : Except Err (Int × Bool) :=
  if dirty then .ok (g, dirty)
  else if envOf env t.env != [] then
    match parseEnvWord (envOf env t.env) with
    | some b => .ok (if b then 1 else 0, true)
    | none => .error .user
  else .ok (t.dflt, dirty)

def Dyn.opt (s : Dyn) (n : Str) : Option Str × Bool := (s.val n, s.dirtyO n)
def Dyn.mul (s : Dyn) (n : Str) : List Str × Bool := (s.vals n, s.dirtyM n)
def Dyn.tog (s : Dyn) (n : Str) : Int × Bool := (s.given n, s.dirtyT n)

/-- `b` is `a` as far as `f` and `g` can see. -/
structure Keeps {β γ : Type} (f : Dyn → β) (g : Dyn → γ) (a b : Dyn) : Prop where
  fst : f b = f a
  snd : g b = g a

theorem Keeps.refl {β γ : Type} {f : Dyn → β} {g : Dyn → γ} (s : Dyn) : Keeps f g s s := ⟨rfl, rfl⟩

theorem Keeps.trans {β γ : Type} {f : Dyn → β} {g : Dyn → γ} (a b c : Dyn) (h : Keeps f g a b) (h' : Keeps f g b c) :
    Keeps f g a c := ⟨h'.fst.trans h.fst, h'.snd.trans h.snd⟩

/-- The outcome `r` of a step on `s` rewrites the pair `view · n`, of which the pure function says `fr`, leaves the
other pairs of its kind alone and keeps `Frame`.  With `fr := fin x (view s (key x))` it is, spelt out, the
hypothesis `hstep` of `foldCheck_spec`. -/
def Rewrites {σ : Type} (view : Dyn → Str → σ) (Frame : Dyn → Dyn → Prop) (n : Str) (fr : Except Err σ)
    (s : Dyn) (r : Except Err Dyn) : Prop :=
  match r with
  | .ok s' => fr = .ok (view s' n) ∧ (∀ m, m ≠ n → view s' m = view s m) ∧ Frame s s'
  | .error e => e = .user ∧ fr = .error .user

variable {σ : Type} {view : Dyn → Str → σ} {Frame : Dyn → Dyn → Prop} {n : Str} {fr : Except Err σ}
  {s s' : Dyn} {r : Except Err Dyn}

theorem Rewrites.ok (h : Rewrites view Frame n fr s r) (hr : r = .ok s') :
    fr = .ok (view s' n) ∧ (∀ m, m ≠ n → view s' m = view s m) ∧ Frame s s' := by
  subst hr; exact h

theorem Rewrites.err {e : Err} (h : Rewrites view Frame n fr s r) (hr : r = .error e) :
    e = .user ∧ fr = .error .user := by
  subst hr; exact h

/-- the step and the pure function make the same test -/
theorem Rewrites.ite {c : Prop} [Decidable c] {a b : Except Err σ} {a' b' : Except Err Dyn}
    (ht : Rewrites view Frame n a s a') (he : Rewrites view Frame n b s b') :
    Rewrites view Frame n (if c then a else b) s (if c then a' else b') := by
  by_cases h : c
  · rw [if_pos h, if_pos h]; exact ht
  · rw [if_neg h, if_neg h]; exact he

theorem Rewrites.keep (hf : Frame s s) : Rewrites view Frame n (.ok (view s n)) s (.ok s) :=
  ⟨rfl, fun _ _ => rfl, hf⟩

theorem Rewrites.refuse : Rewrites view Frame n (.error .user) s (.error .user) := ⟨rfl, rfl⟩

/-- the step has put `a` and `b` at `n` into the two maps the pair is read from -/
theorem Rewrites.set {β γ : Type} {fv : Dyn → Str → β} {fd : Dyn → Str → γ} {a : β} {b : γ}
    (hv : fv s' = upd (fv s) n a) (hd : fd s' = upd (fd s) n b) (hf : Frame s s') :
    Rewrites (fun s n => (fv s n, fd s n)) Frame n (.ok (a, b)) s (.ok s') :=
  ⟨by simp only [hv, hd, upd_same], fun m hm => by simp only [hv, hd, upd_other _ _ _ _ hm], hf⟩

abbrev RewritesOpt := Rewrites Dyn.opt (Keeps Dyn.mul Dyn.tog)
abbrev RewritesMul := Rewrites Dyn.mul (Keeps Dyn.opt Dyn.tog)
abbrev RewritesTog := Rewrites Dyn.tog (Keeps Dyn.opt Dyn.mul)

theorem checkOpt_spec (env : Env) (s : Dyn) (o : OptD) :
    RewritesOpt o.name (optFinal env o (s.val o.name) (s.dirtyO o.name)) s (checkOpt env s o) := by
  unfold checkOpt optFinal
  refine .ite (.keep (.refl s)) (.ite (.set rfl rfl ⟨rfl, rfl⟩) ?_)
  cases o.dflt with
  -- the default leaves the provided-flag alone: its map, updated at the name by what it holds there
  | some dv => exact .set rfl (upd_self ..) ⟨rfl, rfl⟩
  | none => exact .ite (.keep (.refl s)) .refuse

theorem checkMul_spec (env : Env) (s : Dyn) (m : MulD) :
    RewritesMul m.name (mulFinal env m (s.vals m.name) (s.dirtyM m.name)) s (checkMul env s m) := by
  unfold checkMul mulFinal
  refine .ite (.keep (.refl s)) (.ite (.set rfl rfl ⟨rfl, rfl⟩) ?_)
  cases m.dflt with
  | some dv => exact .set rfl (upd_self ..) ⟨rfl, rfl⟩
  | none => exact .ite (.keep (.refl s)) .refuse

theorem checkTog_spec (env : Env) (s : Dyn) (t : TogD) :
    RewritesTog t.name (togFinal env t (s.given t.name) (s.dirtyT t.name)) s (checkTog env s t) := by
  unfold checkTog togFinal
  refine .ite (.keep (.refl s)) (.ite ?_ (.set rfl (upd_self ..) ⟨rfl, rfl⟩))
  cases parseEnvWord (envOf env t.env) with
  | none => exact .refuse
  | some b => exact .set rfl rfl ⟨rfl, rfl⟩

theorem foldCheck_err {α : Type} {f : Dyn → α → Except Err Dyn} (hf : ∀ s x e, f s x = .error e → e = .user)
    {s : Dyn} {l : List α} {e : Err} (h : foldCheck f s l = .error e) : e = .user := by
  induction l generalizing s with
  | nil => cases h
  | cons x xs ih =>
    unfold foldCheck at h
    split at h
    · rename_i e' he; cases h; exact hf _ _ _ he
    · exact ih h

/-- whatever the names: `validate_spec` says more where they are distinct -/
theorem validate_err {d : Decl} {env : Env} {s : Dyn} {e : Err} (h : validate d env s = .error e) : e = .user := by
  unfold validate at h
  split at h
  · rename_i e' he; cases h
    exact foldCheck_err (fun s o _ hr => ((checkOpt_spec env s o).err hr).1) he
  · split at h
    · rename_i e' he; cases h
      exact foldCheck_err (fun s m _ hr => ((checkMul_spec env s m).err hr).1) he
    · exact foldCheck_err (fun s t _ hr => ((checkTog_spec env s t).err hr).1) h

/-- A pass of `foldCheck` over declarations with pairwise distinct names, each step of which rewrites
only the `view` of its own name by `fin` and otherwise preserves `Frame`. -/
theorem foldCheck_spec {α σ : Type} (f : Dyn → α → Except Err Dyn) (key : α → Str)
    (view : Dyn → Str → σ) (fin : α → σ → Except Err σ) (Frame : Dyn → Dyn → Prop)
    (frefl : ∀ s, Frame s s) (ftrans : ∀ a b c, Frame a b → Frame b c → Frame a c)
    (hstep : ∀ s x, match f s x with
      | .ok s' => fin x (view s (key x)) = .ok (view s' (key x)) ∧
          (∀ n, n ≠ key x → view s' n = view s n) ∧ Frame s s'
      | .error e => e = .user ∧ fin x (view s (key x)) = .error .user)
    (l : List α) (hnd : (l.map key).Nodup) (s : Dyn) :
    match foldCheck f s l with
    | .ok s' => (∀ x ∈ l, fin x (view s (key x)) = .ok (view s' (key x))) ∧
        (∀ n, n ∉ l.map key → view s' n = view s n) ∧ Frame s s'
    | .error e => e = .user ∧ ∃ x ∈ l, fin x (view s (key x)) = .error .user := by
  induction l generalizing s with
  | nil => exact ⟨nofun, fun _ _ => rfl, frefl s⟩
  | cons x xs ih =>
    rw [List.map_cons, List.nodup_cons] at hnd
    have hs := hstep s x
    rw [foldCheck]
    cases hfx : f s x with
    | error e => rw [hfx] at hs; exact ⟨hs.1, x, List.mem_cons_self, hs.2⟩
    | ok s1 =>
      rw [hfx] at hs
      obtain ⟨hx, hother, hframe⟩ := hs
      -- the later elements have other names, so the step of `x` has left their views alone
      have hview : ∀ y ∈ xs, view s1 (key y) = view s (key y) := fun y hy =>
        hother _ fun he => hnd.1 (he ▸ List.mem_map_of_mem hy)
      have IH := ih hnd.2 s1
      dsimp only
      cases hfold : foldCheck f s1 xs with
      | error e =>
        rw [hfold] at IH
        obtain ⟨he, y, hy, hfy⟩ := IH
        exact ⟨he, y, List.mem_cons_of_mem _ hy, hview y hy ▸ hfy⟩
      | ok s' =>
        rw [hfold] at IH
        obtain ⟨hall, hrest, hfr⟩ := IH
        refine ⟨?_, ?_, ftrans _ _ _ hframe hfr⟩
        · intro y hy
          rcases List.mem_cons.mp hy with rfl | h
          · rw [hx, hrest _ hnd.1]
          · rw [← hview y h]; exact hall y h
        · intro n hn
          rw [List.map_cons, List.mem_cons, not_or] at hn
          rw [hrest n hn.2, hother n hn.1]

/-- `validate_options()` in terms of the three per-option functions -/
theorem validate_spec (d : Decl) (hwf : WF d) (env : Env) (s : Dyn) :
    match validate d env s with
    | .ok s' =>
      (∀ o ∈ d.opts, optFinal env o (s.val o.name) (s.dirtyO o.name) = .ok (s'.val o.name, s'.dirtyO o.name)) ∧
      (∀ m ∈ d.muls, mulFinal env m (s.vals m.name) (s.dirtyM m.name) = .ok (s'.vals m.name, s'.dirtyM m.name)) ∧
      (∀ t ∈ d.togs, togFinal env t (s.given t.name) (s.dirtyT t.name) = .ok (s'.given t.name, s'.dirtyT t.name))
    | .error e => e = .user ∧
      ((∃ o ∈ d.opts, optFinal env o (s.val o.name) (s.dirtyO o.name) = .error .user) ∨
       (∃ m ∈ d.muls, mulFinal env m (s.vals m.name) (s.dirtyM m.name) = .error .user) ∨
       (∃ t ∈ d.togs, togFinal env t (s.given t.name) (s.dirtyT t.name) = .error .user)) := by
  have h1 := foldCheck_spec (checkOpt env) (·.name) Dyn.opt (fun o p => optFinal env o p.1 p.2)
    (Keeps Dyn.mul Dyn.tog) Keeps.refl Keeps.trans (checkOpt_spec env) d.opts (nodup_optNames hwf.names) s
  unfold validate
  cases hf1 : foldCheck (checkOpt env) s d.opts with
  | error e => rw [hf1] at h1; exact ⟨h1.1, Or.inl h1.2⟩
  | ok s1 =>
    rw [hf1] at h1
    obtain ⟨ho, _, hm1, ht1⟩ := h1
    have h2 := foldCheck_spec (checkMul env) (·.name) Dyn.mul (fun m p => mulFinal env m p.1 p.2)
      (Keeps Dyn.opt Dyn.tog) Keeps.refl Keeps.trans (checkMul_spec env) d.muls (nodup_mulNames hwf.names) s1
    -- the options' pass has left the multi-options' pairs alone
    rw [hm1] at h2
    dsimp only
    cases hf2 : foldCheck (checkMul env) s1 d.muls with
    | error e => rw [hf2] at h2; exact ⟨h2.1, Or.inr (Or.inl h2.2)⟩
    | ok s2 =>
      rw [hf2] at h2
      obtain ⟨hm, _, ho2, ht2⟩ := h2
      have h3 := foldCheck_spec (checkTog env) (·.name) Dyn.tog (fun t p => togFinal env t p.1 p.2)
        (Keeps Dyn.opt Dyn.mul) Keeps.refl Keeps.trans (checkTog_spec env) d.togs (nodup_togNames hwf.names) s2
      rw [ht2, ht1] at h3
      dsimp only
      cases hf3 : foldCheck (checkTog env) s2 d.togs with
      | error e => rw [hf3] at h3; exact ⟨h3.1, Or.inr (Or.inr h3.2)⟩
      | ok s3 =>
        rw [hf3] at h3
        obtain ⟨ht, _, ho3, hm3⟩ := h3
        refine ⟨fun o hmem => ?_, fun m hmem => ?_, ht⟩
        · show _ = Except.ok (s3.opt o.name)
          rw [ho3, ho2]; exact ho o hmem
        · show _ = Except.ok (s3.mul m.name)
          rw [hm3]; exact hm m hmem

end NitroVerif.Opt
