/-! Counting lemmas for the ownership invariants: how the number of occurrences of a value in a list
changes under `set`, `++ [·]` and `dropLast`, as equations between sums with `ind`, ready for `omega`. -/
namespace NitroVerif.Own

open Classical in
noncomputable def ind (p : Prop) : Nat := if p then 1 else 0

theorem ind_true {p : Prop} (h : p) : ind p = 1 := if_pos h
theorem ind_false {p : Prop} (h : ¬p) : ind p = 0 := if_neg h
theorem ind_le_one (p : Prop) : ind p ≤ 1 := by
  by_cases h : p
  · rw [ind_true h]; exact Nat.le_refl 1
  · rw [ind_false h]; exact Nat.zero_le 1
theorem ind_pos {p : Prop} (h : 0 < ind p) : p :=
  Classical.byContradiction fun hp => by rw [ind_false hp] at h; exact Nat.lt_irrefl 0 h
theorem ind_lt_succ (id n : Nat) : ind (id < n + 1) = ind (id < n) + ind (n = id) := by
  rcases Nat.lt_trichotomy id n with h | h | h
  · rw [ind_true h, ind_true (Nat.lt_succ_of_lt h), ind_false (Nat.ne_of_gt h)]
  · rw [h, ind_true (Nat.lt_succ_self n), ind_false (Nat.lt_irrefl n), ind_true rfl]
  · rw [ind_false (Nat.not_lt.mpr (Nat.le_of_lt h)), ind_false (Nat.not_lt.mpr h),
      ind_false (Nat.ne_of_lt h)]
theorem ind_some {α : Type} (a b : α) : ind (some a = some b) = ind (a = b) := by
  rw [Option.some_inj]
theorem ind_none {α : Type} (b : α) : ind (none = some b) = 0 := ind_false nofun
/-- `l[i]?.getD none` is what cell `i` of a list of optional cells holds. -/
theorem ind_getD_none {α : Type} (o : Option (Option α)) (a : α) :
    ind (o.getD none = some a) = ind (o = some (some a)) := by
  cases o with
  | none => rw [Option.getD_none, ind_none, ind_none]
  | some c => rw [Option.getD_some, ind_some]

variable {α : Type} [BEq α] [LawfulBEq α]

theorem count_cons_ind (b a : α) (l : List α) : (b :: l).count a = l.count a + ind (b = a) := by
  rw [List.count_cons]
  by_cases h : b = a
  · rw [ind_true h, if_pos (beq_iff_eq.mpr h)]
  · rw [ind_false h, if_neg (mt beq_iff_eq.mp h)]

theorem count_singleton_ind (b a : α) : [b].count a = ind (b = a) := by
  rw [count_cons_ind, List.count_nil, Nat.zero_add]

theorem count_pos_of_getElem? {l : List α} {i : Nat} {a : α} (h : l[i]? = some a) : 0 < l.count a :=
  List.count_pos_iff.mpr (List.mem_of_getElem? h)

theorem count_set (l : List α) (i : Nat) (x a : α) (h : i < l.length) :
    (l.set i x).count a + ind (l[i]? = some a) = l.count a + ind (x = a) := by
  induction l generalizing i with
  | nil => exact absurd h (Nat.not_lt_zero i)
  | cons b l ih =>
    cases i with
    | zero =>
      rw [List.set_cons_zero, List.getElem?_cons_zero, count_cons_ind, count_cons_ind, ind_some]
      omega
    | succ i =>
      rw [List.set_cons_succ, List.getElem?_cons_succ, count_cons_ind, count_cons_ind]
      have := ih i (Nat.lt_of_succ_lt_succ h)
      omega

theorem count_set_le (l : List α) (i : Nat) (x a : α) :
    (l.set i x).count a ≤ l.count a + ind (x = a) := by
  by_cases h : i < l.length
  · have := count_set l i x a h; omega
  · rw [List.set_eq_of_length_le (Nat.le_of_not_lt h)]; omega

theorem count_dropLast (l : List α) (a : α) :
    l.dropLast.count a + ind (l[l.length - 1]? = some a) = l.count a := by
  induction l with
  | nil => rw [List.getElem?_nil, ind_none]; rfl
  | cons b l ih =>
    cases l with
    | nil =>
      rw [List.dropLast_singleton, List.count_nil, Nat.zero_add, count_singleton_ind]
      exact ind_some b a
    | cons c l =>
      rw [List.dropLast_cons_cons, count_cons_ind, count_cons_ind b]
      simp only [List.length_cons, Nat.add_sub_cancel, List.getElem?_cons_succ] at ih ⊢
      omega

end NitroVerif.Own
