import NitroVerif.Lemmas.OptApply

/-!
Refinement, part 3c: `validate_options()` on a state that tracks an item list computes the
specification's `interp` of that item list.
-/
namespace NitroVerif.Opt

theorem interpOpt_eq (env : Env) {items : List Item} {o : OptD} {v : Option Str × Bool}
    (h : ROpt (cliValues o.name items) v) : interpOpt env items o = optFinal env o v.1 v.2 := by
  obtain ⟨hv, hl, hd⟩ := h
  unfold interpOpt optFinal
  rw [envNonEmpty_eq, hv, hd]
  generalize cliValues o.name items = cs at hl ⊢
  cases cs with
  | nil =>
    show _ = if false = true then _ else _
    rw [if_neg Bool.false_ne_true]
    by_cases he : (envOf env o.env != []) = true
    · rw [if_pos he, if_pos he]
    · rw [if_neg he, if_neg he]
      cases o.dflt <;> rfl
  | cons x xs =>
    cases xs with
    | nil => rfl
    | cons y ys => exact absurd hl (by simp)

theorem interpMul_eq (env : Env) {items : List Item} {m : MulD} {v : List Str × Bool}
    (h : RMul (cliValues m.name items) v) : interpMul env items m = mulFinal env m v.1 v.2 := by
  obtain ⟨hv, hd⟩ := h
  unfold interpMul mulFinal
  rw [envNonEmpty_eq, hv, hd]
  cases cliValues m.name items with
  | nil =>
    show _ = if false = true then _ else _
    rw [if_neg Bool.false_ne_true]
    by_cases he : (envOf env m.env != []) = true
    · rw [if_pos he, if_pos he]
      have : (splitSemi (envOf env m.env) != []) = true := by
        simpa using splitSemi_ne_nil (envOf env m.env) (by simpa using he)
      rw [this]; rfl
    · rw [if_neg he, if_neg he]
      cases m.dflt <;> rfl
  | cons x xs => rfl

theorem interpTog_eq (env : Env) {items : List Item} {t : TogD} {v : Int × Bool}
    (h : RTog t (posCount t items) (negCount t items) v) : interpTog env items t = togFinal env t v.1 v.2 := by
  obtain ⟨hg, hd, hx, hr⟩ := h
  unfold togFinal
  rw [hd, hg]
  by_cases hn : negCount t items > 0
  · have hp0 : posCount t items = 0 := by omega
    rw [interpTog_neg hn (hr hn) hp0, hp0]
    simp [hn]
  · by_cases hp : posCount t items > 0
    · rw [interpTog_pos (by omega) hp]
      simp [hp]
    · have hp0 : posCount t items = 0 := by omega
      rw [interpTog_absent (by omega) hp0, envNonEmpty_eq, hp0]
      simp only [hn, Nat.lt_irrefl, decide_false, Bool.or_self, Bool.false_eq_true, if_false]
      by_cases he : (envOf env t.env != []) = true
      · rw [if_pos he, if_pos he]; rfl
      · rw [if_neg he, if_neg he]

theorem interp_of_bad (d : Decl) (env : Env) (items : List Item) (h : Bad d items) :
    interp d env items = .error .user := by
  refine (interp_err_iff d env items).mpr ?_
  rcases h with ⟨o, ho, hl⟩ | ⟨t, ht, hn, hb⟩ | ⟨n, hn, hl⟩
  · refine Or.inr (Or.inl ⟨o, ho, ?_⟩)
    unfold interpOpt
    match hc : cliValues o.name items with
    | [] => rw [hc] at hl; exact absurd hl (by simp)
    | [_] => rw [hc] at hl; exact absurd hl (by simp)
    | _ :: _ :: _ => rfl
  · exact Or.inr (Or.inr (Or.inr ⟨t, ht, hb.elim (interpTog_notReversible hn) (interpTog_conflict hn)⟩))
  · refine Or.inl ?_
    unfold tooMany; rw [hn]; simpa using hl

theorem interp_of_tracks (d : Decl) (hwf : WF d) (env : Env) (items : List Item) (s : Dyn) (pos : List Str)
    (h : Tracks d items s pos) :
    interp d env items = match validate d env s with
      | .error e => .error e
      | .ok s2 => .ok (mkResult d s2 pos) := by
  have hO : ∀ o ∈ d.opts, interpOpt env items o = optFinal env o (s.val o.name) (s.dirtyO o.name) :=
    fun o ho => interpOpt_eq env (h.ropt ho)
  have hM : ∀ m ∈ d.muls, interpMul env items m = mulFinal env m (s.vals m.name) (s.dirtyM m.name) :=
    fun m hm => interpMul_eq env (h.rmul hm)
  have hT : ∀ t ∈ d.togs, interpTog env items t = togFinal env t (s.given t.name) (s.dirtyT t.name) :=
    fun t ht => interpTog_eq env (h.rtog ht)
  have hroom : tooMany d (positionalsOf items).length = false := by
    unfold tooMany
    cases ha : d.allowed with
    | none => rfl
    | some n => exact decide_eq_false (Nat.not_lt.mpr (h.posEq ▸ h.room n ha))
  have hv := validate_spec d hwf env s
  cases hval : validate d env s with
  | error e =>
    rw [hval] at hv
    obtain ⟨rfl, hcase⟩ := hv
    refine (interp_err_iff d env items).mpr (Or.inr ?_)
    rcases hcase with ⟨o, ho, hoe⟩ | ⟨m, hm, hme⟩ | ⟨t, ht, hte⟩
    · exact Or.inl ⟨o, ho, (hO o ho).trans hoe⟩
    · exact Or.inr (Or.inl ⟨m, hm, (hM m hm).trans hme⟩)
    · exact Or.inr (Or.inr ⟨t, ht, (hT t ht).trans hte⟩)
  | ok s2 =>
    rw [hval] at hv
    obtain ⟨ho, hm, ht⟩ := hv
    exact interp_eq_ok_iff.mpr ⟨hroom, fun o => s2.opt o.name, fun m => s2.mul m.name, fun t => s2.tog t.name,
      fun o hmem => (hO o hmem).trans (ho o hmem), fun m hmem => (hM m hmem).trans (hm m hmem),
      fun t hmem => (hT t hmem).trans (ht t hmem), by rw [h.posEq]; rfl⟩

end NitroVerif.Opt
