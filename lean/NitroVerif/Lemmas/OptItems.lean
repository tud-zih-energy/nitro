import NitroVerif.Lemmas.Opt

/-!
Between the parse loop and the specification: what one explained item does to the parse state
(`applyOptItem`; with the positionals `applyItem`, `applyItems`), written with the model's own update
functions.  The token and loop level shows that the loop does this for the items of the explanation; the
interpretation level shows that doing this yields what `interp` computes.  `WF` is the hypothesis of both.
-/
namespace NitroVerif.Opt

/-- `k` positive occurrences of toggle `t` -/
def togPos (s : Dyn) (t : TogD) (k : Int) : Except Err Dyn :=
  if s.dirtyT t.name && s.given t.name == 0 then .error .user
  else .ok { s with given := upd s.given t.name (s.given t.name + k), dirtyT := upd s.dirtyT t.name true }

/-- `--no-<t>` -/
def togNegate (s : Dyn) (t : TogD) : Except Err Dyn :=
  if !t.reversible then .error .user
  else if s.dirtyT t.name && s.given t.name != 0 then .error .user
  else .ok { s with given := upd s.given t.name 0, dirtyT := upd s.dirtyT t.name true }

def hasLetterIn (ls : Str) (t : TogD) : Bool :=
  match t.short with
  | some c => decide (ls.count c > 0)
  | none => false

/-- a short token's letters applied to the toggles, in map order -/
def togsShortFold (ls : Str) : Dyn → List TogD → Except Err Dyn
  | s, [] => .ok s
  | s, t :: rest =>
    if hasLetterIn ls t then
      match togPos s t (letterCount t ls) with
      | .error e => .error e
      | .ok s' => togsShortFold ls s' rest
    else togsShortFold ls s rest

def applyValue (d : Decl) (s : Dyn) (n v : Str) : Except Err Dyn :=
  match d.opts.find? (·.name == n) with
  | some o => updateOpt s o v
  | none =>
    match d.muls.find? (·.name == n) with
    | some m => updateMul s m v
    | none => .error .user

/-- the effect of one explained item on the options' state (positionals are the loop's business) -/
def applyOptItem (d : Decl) (s : Dyn) : Item → Except Err Dyn
  | .pos _ => .ok s
  | .sep => .ok s
  | .optSep n _ v => applyValue d s n v
  | .optEq n _ v => applyValue d s n v
  | .togLong n => match d.togs.find? (·.name == n) with
    | some t => togPos s t 1
    | none => .error .user
  | .togNeg n => match d.togs.find? (·.name == n) with
    | some t => togNegate s t
    | none => .error .user
  | .togShort ls => togsShortFold ls s d.togs

theorem hasLetterIn_iff {ls : Str} {t : TogD} : hasLetterIn ls t = true ↔ ∃ c ∈ ls, t.short = some c := by
  unfold hasLetterIn
  cases t.short with
  | none => simp
  | some c => simp [List.count_pos_iff]

/-- Well-formed declaration: what the declaration API guarantees (long names pairwise distinct over
all kinds, Props/C13) and what `check_parser_consistency` checks at parse time. -/
structure WF (d : Decl) : Prop where
  names : (allNames d).Nodup
  cons : consistent d = true

theorem WF.letters {d : Decl} (h : WF d) : (shortNames d).Nodup := by
  have := h.cons; unfold consistent at this
  simp only [Bool.and_eq_true, decide_eq_true_eq] at this
  exact this.1

theorem WF.noPrefixFree {d : Decl} (h : WF d) {t : TogD} (ht : t ∈ d.togs) :
    noPrefix ++ t.name ∉ allNames d := by
  have := h.cons; unfold consistent at this
  simp only [Bool.and_eq_true, List.all_eq_true] at this
  simpa [noPrefix, List.contains_iff_mem] using this.2 t ht

/-- `check_parser_consistency`: no letter belongs to a value-taking option and to a toggle -/
theorem WF.val_tog_letter {d : Decl} (h : WF d) {p : Str × Option Char} (hp : p ∈ valueOpts d) {t : TogD}
    (ht : t ∈ d.togs) {c : Char} (hpc : p.2 = some c) (htc : t.short = some c) : False := by
  have hl := h.letters
  rw [shortNames_eq] at hl
  exact (List.nodup_append.mp hl).2.2 c (List.mem_filterMap.mpr ⟨p, hp, hpc⟩) c
    (List.mem_filterMap.mpr ⟨t, ht, htc⟩) rfl

theorem applyValue_opt {d : Decl} (hnames : (allNames d).Nodup) (s : Dyn) {o : OptD} (ho : o ∈ d.opts) :
    applyValue d s o.name = updateOpt s o :=
  funext fun v => by rw [applyValue, find?_by_key (·.name) d.opts (nodup_optNames hnames) o ho]

theorem applyValue_mul {d : Decl} (hnames : (allNames d).Nodup) (s : Dyn) {m : MulD} (hm : m ∈ d.muls) :
    applyValue d s m.name = updateMul s m := by
  funext v
  have hno : d.opts.find? (·.name == m.name) = none :=
    List.find?_eq_none.mpr fun o ho hb => optName_ne_mulName hnames ho hm (beq_iff_eq.mp hb)
  rw [applyValue, hno, find?_by_key (·.name) d.muls (nodup_mulNames hnames) m hm]

def applyItem (d : Decl) (s : Dyn) (pos : List Str) : Item → Except Err (Dyn × List Str)
  | .pos t => if d.allowed == some pos.length then .error .user else .ok (s, pos ++ [t])
  | it => (applyOptItem d s it).map (·, pos)

def applyItems (d : Decl) : List Item → Dyn → List Str → Except Err (Dyn × List Str)
  | [], s, pos => .ok (s, pos)
  | it :: rest, s, pos =>
    match applyItem d s pos it with
    | .error e => .error e
    | .ok (s', pos') => applyItems d rest s' pos'

theorem applyItem_opt {d : Decl} {s : Dyn} {pos : List Str} {it : Item} (h : ∀ t, it ≠ .pos t) :
    applyItem d s pos it = (applyOptItem d s it).map (·, pos) := by
  cases it with
  | pos t => exact absurd rfl (h t)
  | _ => rfl

end NitroVerif.Opt
