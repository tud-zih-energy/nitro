import NitroVerif.Lemmas.OptDispatch

/-!
Refinement, part 2: the equations of the parse loop, that every failure inside it is a `parsing_error`
(`loop_err`), and that the loop is the specification's explanation of the argument vector followed by the
items applied one after the other (`loop_factor`; `runItems` is that right-hand side).
-/
namespace NitroVerif.Opt

theorem loop_nil (d : Decl) (st : LoopSt) : loop d st [] = .ok st := by
  rw [loop]

theorem loop_pos (d : Decl) (st : LoopSt) (tok : Str) (rest : List Str)
    (h : (st.onlyPos || isValueTok tok) = true) :
    loop d st (tok :: rest) =
      if d.allowed == some st.pos.length then .error .user
      else loop d { st with pos := st.pos ++ [tok], onlyPos := st.onlyPos || d.greedy } rest := by
  rw [loop, if_pos h]

theorem loop_opt (d : Decl) (st : LoopSt) (tok : Str) (rest : List Str)
    (h : (st.onlyPos || isValueTok tok) = false) :
    loop d st (tok :: rest) =
      match mkUI tok with
      | none => .error .user
      | some u =>
        if u.isDoubleDash then loop d { st with onlyPos := true } rest
        else if !shortListOk d u then .error .user
        else match tokStep d st.dyn u rest.head? with
          | .error e => .error e
          | .ok (s', consumed) => loop d { st with dyn := s' } (if consumed then rest.tail else rest) := by
  rw [loop, if_neg (by rw [h]; decide)]
  cases mkUI tok with
  | none => rfl
  | some u =>
    dsimp only
    by_cases hdd : u.isDoubleDash = true
    · rw [if_pos hdd, if_pos hdd]
    · rw [if_neg hdd, if_neg hdd]
      by_cases hsl : (!shortListOk d u) = true
      · rw [if_pos hsl, if_pos hsl]
      · rw [if_neg hsl, if_neg hsl, tokStep]
        -- the three passes, outcome by outcome
        rcases tryOpts st.dyn u rest.head? d.opts with _ | ⟨_ | ⟨_, _⟩⟩
        · rcases tryMuls st.dyn u rest.head? d.muls with _ | ⟨_ | ⟨_, _⟩⟩
          · rcases tryTogs u st.dyn false d.togs with _ | ⟨_, _ | _⟩ <;> rfl
          · rfl
          · rfl
        · rfl
        · rfl

theorem updateOpt_userErr (s : Dyn) (o : OptD) (v : Str) : UserErr (updateOpt s o v) :=
  .ite userErr_user (userErr_ok _)

theorem updateTog_userErr (s : Dyn) (t : TogD) (u : UI) : UserErr (updateTog s t u) :=
  .ite userErr_user (.ite (.ite userErr_user (.ite userErr_user (userErr_ok _))) (.ite userErr_user (userErr_ok _)))

theorem valAct_userErr {update : Str → Except Err Dyn} (hup : ∀ w, UserErr (update w)) (u : UI)
    (next : Option Str) : UserErr (valAct update u next) := by
  refine .ite ((hup _).map _) ?_
  cases next with
  | none => exact userErr_user
  | some n => exact .ite ((hup n).map _) userErr_user

theorem tryTogs_userErr (u : UI) (s : Dyn) (f : Bool) (l : List TogD) : UserErr (tryTogs u s f l) := by
  induction l generalizing s f with
  | nil => exact userErr_ok _
  | cons t rest ih =>
    refine .ite ?_ (ih s f)
    have hu := updateTog_userErr s t u
    generalize updateTog s t u = r at hu ⊢
    cases r with
    | error e => exact hu e rfl ▸ userErr_user
    | ok s' => exact ih s' true

theorem tokStep_userErr (d : Decl) (s : Dyn) (u : UI) (next : Option Str) : UserErr (tokStep d s u next) := by
  rw [tokStep, tryOpts_find, tryMuls_find]
  cases d.opts.find? (fun o => matchesBase o.name o.short u) with
  | some o => exact valAct_userErr (updateOpt_userErr s o) u next
  | none =>
    cases d.muls.find? (fun m => matchesBase m.name m.short u) with
    | some m => exact valAct_userErr (fun _ => userErr_ok _) u next
    | none =>
      have ht := tryTogs_userErr u s false d.togs
      generalize tryTogs u s false d.togs = r at ht ⊢
      rcases r with e | ⟨s', _ | _⟩
      · exact ht
      · exact userErr_user
      · exact userErr_ok _

theorem loop_err {d : Decl} {e : Err} (toks : List Str) (st : LoopSt)
    (h : loop d st toks = .error e) : e = .user := by
  revert e
  show UserErr (loop d st toks)
  induction toks using tokens_induct generalizing st with
  | nil => rw [loop_nil]; exact userErr_ok _
  | cons tok rest ih ih2 =>
    by_cases hp : (st.onlyPos || isValueTok tok) = true
    · rw [loop_pos d st tok rest hp]
      exact .ite userErr_user (ih _)
    · rw [loop_opt d st tok rest (Bool.eq_false_iff.mpr hp)]
      cases mkUI tok with
      | none => exact userErr_user
      | some u =>
        refine .ite (ih _) (.ite userErr_user ?_)
        have hs := tokStep_userErr d st.dyn u rest.head?
        generalize tokStep d st.dyn u rest.head? = r at hs ⊢
        rcases r with e | ⟨s', _ | _⟩
        · exact hs e rfl ▸ userErr_user
        · exact ih _
        · exact ih2 _

/-- the items of an explanation applied from the left; no explanation is a `parsing_error` -/
def runItems (d : Decl) (s : Dyn) (pos : List Str) : Option (List Item) → Except Err (Dyn × List Str)
  | none => .error .user
  | some items => applyItems d items s pos

theorem runItems_cons_ok {d : Decl} {s s' : Dyn} {pos pos' : List Str} {it : Item}
    (h : applyItem d s pos it = .ok (s', pos')) (r : Option (List Item)) :
    runItems d s pos (r.map (it :: ·)) = runItems d s' pos' r := by
  cases r with
  | none => rfl
  | some items => simp only [Option.map_some, runItems, applyItems, h]

theorem runItems_cons_err {d : Decl} {s : Dyn} {pos : List Str} {it : Item}
    (h : applyItem d s pos it = .error .user) (r : Option (List Item)) :
    runItems d s pos (r.map (it :: ·)) = .error .user := by
  cases r with
  | none => rfl
  | some items => simp only [Option.map_some, runItems, applyItems, h]

section
variable {d : Decl} {st : LoopSt} {tok : Str} (rest : List Str) (h : (st.onlyPos || isValueTok tok) = false)
include h

theorem loop_sep (hd : isDoubleDashTok tok = true) :
    loop d st (tok :: rest) = loop d { st with onlyPos := true } rest := by
  have hu : mkUI tok = some ⟨tok, (splitEq tok).1, (splitEq tok).2⟩ := by
    simp [mkUI, hd]
  rw [loop_opt d st tok rest h, hu]
  simp only [UI.isDoubleDash, hd, if_true]

theorem loop_step {u : UI} (hu : mkUI tok = some u) (hdd : u.isDoubleDash = false)
    (hsl : shortListOk d u = true) :
    loop d st (tok :: rest) =
      match tokStep d st.dyn u rest.head? with
      | .error e => .error e
      | .ok (s', owns) => loop d { st with dyn := s' } (if owns then rest.tail else rest) := by
  rw [loop_opt d st tok rest h, hu]
  simp only [hdd, hsl, Bool.false_eq_true, if_false, Bool.not_true]

/-- where `DispatchOk` says that a token has no explanation, the loop stops with a `parsing_error` -/
theorem loop_stop
    (hbad : mkUI tok = none ∨ ∃ u, mkUI tok = some u ∧ u.isDoubleDash = false ∧
      (shortListOk d u = false ∨ ∃ e, tokStep d st.dyn u rest.head? = .error e)) :
    loop d st (tok :: rest) = .error .user := by
  rw [loop_opt d st tok rest h]
  rcases hbad with hu | ⟨u, hu, hdd, hsl | ⟨e, he⟩⟩
  · rw [hu]
  · rw [hu]; simp only [hdd, hsl, Bool.false_eq_true, if_false, Bool.not_false, if_true]
  · rw [hu]
    simp only [hdd, Bool.false_eq_true, if_false, he]
    split
    · rfl
    · rw [tokStep_userErr _ _ _ _ _ he]

end

/-- **loop_factor**: the parse loop computes the specification's explanation and applies its items
from left to right; it fails (always with a `parsing_error`) when there is no explanation. -/
theorem loop_factor (d : Decl) (hwf : WF d) (toks : List Str) (st : LoopSt) :
    (loop d st toks).map (fun st' => (st'.dyn, st'.pos)) =
      match explainGo d st.onlyPos toks with
      | none => .error .user
      | some items => applyItems d items st.dyn st.pos := by
  show _ = runItems d st.dyn st.pos (explainGo d st.onlyPos toks)
  induction toks using tokens_induct generalizing st with
  | nil => rw [loop_nil, explainGo_nil]; rfl
  | cons tok rest ih ih2 =>
    by_cases hp : (st.onlyPos || isValueTok tok) = true
    · -- a positional
      rw [loop_pos d st tok rest hp, explainGo_pos hp]
      by_cases ha : (d.allowed == some st.pos.length) = true
      · rw [if_pos ha, runItems_cons_err (by simp only [applyItem, ha, if_true])]; rfl
      · have happ : applyItem d st.dyn st.pos (.pos tok) = .ok (st.dyn, st.pos ++ [tok]) := by
          simp only [applyItem, ha, Bool.false_eq_true, if_false]
        rw [if_neg ha, ih, runItems_cons_ok happ]
    · have hpf : (st.onlyPos || isValueTok tok) = false := Bool.eq_false_iff.mpr hp
      obtain ⟨s, pos, onlyPos⟩ := st
      obtain ⟨rfl, hvt⟩ : onlyPos = false ∧ _ := Bool.or_eq_false_iff.mp hpf
      by_cases hdd : isDoubleDashTok tok = true
      · -- the separator
        rw [loop_sep rest hpf hdd, explainGo_sep hvt hdd, ih, runItems_cons_ok (s' := s) (pos' := pos) rfl]
      · -- an option-like token: `dispatch`
        have hddf : isDoubleDashTok tok = false := Bool.eq_false_iff.mpr hdd
        have hdisp := dispatch d hwf s tok rest.head? hvt hddf
        rw [DispatchOk] at hdisp
        rw [explainGo_tok hvt hddf]
        cases hex : explainTok d tok rest.head? with
        | none =>
          rw [hex] at hdisp
          rw [loop_stop rest hpf hdisp]; rfl
        | some p =>
          obtain ⟨it, owns⟩ := p
          rw [hex] at hdisp
          obtain ⟨u, hu, hud, hsl, hstep⟩ := hdisp
          rw [loop_step rest hpf hu hud hsl]
          have happ := applyItem_opt (d := d) (s := s) (pos := pos) (explainTok_sound hex).notPos
          cases hit : applyOptItem d s it with
          | error e =>
            rw [hit] at hstep happ
            cases tokStep_userErr _ _ _ _ _ hstep
            rw [hstep, runItems_cons_err happ]; rfl
          | ok s' =>
            rw [hit] at hstep happ
            rw [hstep, runItems_cons_ok happ]
            cases owns
            · exact ih ⟨s', pos, false⟩
            · exact ih2 ⟨s', pos, false⟩

end NitroVerif.Opt
