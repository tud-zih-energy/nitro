import NitroVerif.Lemmas.OptItems

/-!
The converse of `explainGo_render` (an explanation spells back to the argument vector): every *canonical* item list — what a user means when
spelling an assignment — rendered to tokens, is explained back as exactly that item list.
-/
namespace NitroVerif.Opt

/-- a name that can be written on a command line: starts with neither `-` nor `=`, contains no `=` -/
def GoodName (n : Str) : Prop := (∃ c r, n = c :: r ∧ c ≠ '-' ∧ c ≠ '=') ∧ '=' ∉ n

theorem togLetter_not_valueLetter (d : Decl) (hwf : WF d) (c : Char) (h : isTogLetter d c = true) :
    valueOptOfLetter d c = none := by
  obtain ⟨t, ht, hts⟩ := isTogLetter_iff.mp h
  unfold valueOptOfLetter
  cases hf : (valueOpts d).find? (·.2 == some c) with
  | none => rfl
  | some p =>
    exact (hwf.val_tog_letter (List.mem_of_find?_eq_some hf) ht (by simpa using List.find?_some hf) hts).elim

theorem togName_not_valueName (d : Decl) (hwf : WF d) (n : Str) (h : isTogName d n = true) :
    ¬ isValueOptName d n = true := by
  obtain ⟨t, ht, rfl⟩ := isTogName_iff.mp h
  exact fun hv => valName_ne_togName hwf.names (isValueOptName_iff.mp hv) ht rfl

theorem noName_undeclared (d : Decl) (hwf : WF d) (n : Str) (h : isTogName d n = true) :
    ¬ isValueOptName d (noPrefix ++ n) = true ∧ ¬ isTogName d (noPrefix ++ n) = true := by
  obtain ⟨t, ht, rfl⟩ := isTogName_iff.mp h
  have hfree := hwf.noPrefixFree ht
  refine ⟨fun hv => hfree (List.mem_append_left _ (isValueOptName_iff.mp hv)), fun hv => ?_⟩
  obtain ⟨t', ht', hn'⟩ := isTogName_iff.mp hv
  exact hfree (List.mem_append_right _ (List.mem_map.mpr ⟨t', ht', hn'⟩))

/-- an option-like item as a user can write it -/
def CanonOpt (d : Decl) : Item → Prop
  | .optSep n sh v => isValueOptName d n = true ∧ GoodName n ∧
      (sh = true → ∃ c, letterOf d n = some c ∧ c ≠ '-' ∧ c ≠ '=') ∧ isValueTok v = true
  | .optEq n sh _ => isValueOptName d n = true ∧ GoodName n ∧
      (sh = true → ∃ c, letterOf d n = some c ∧ c ≠ '-' ∧ c ≠ '=')
  | .togLong n => isTogName d n = true ∧ GoodName n
  | .togNeg n => isTogName d n = true ∧ '=' ∉ n
  | .togShort ls => (∃ c r, ls = c :: r ∧ c ≠ '-' ∧ c ≠ '=') ∧ '=' ∉ ls ∧ ls.all (isTogLetter d) = true
  | _ => False

theorem notValue_dash (rest : Str) : isValueTok ('-' :: rest) = false := rfl

/-- The head token of a value-taking option, spelled by name or by letter, with or without `=value`. -/
theorem explainTok_spell (d : Decl) (hwf : WF d) (n : Str) (sh : Bool) (value : Option Str)
    (hv : isValueOptName d n = true) (hg : GoodName n)
    (hs : sh = true → ∃ c, letterOf d n = some c ∧ c ≠ '-' ∧ c ≠ '=') (next : Option Str) :
    explainTok d (spell d n sh ++ eqTail value) next = explainValue n sh value next := by
  cases sh with
  | false =>
    obtain ⟨⟨c, r, rfl, hc, _⟩, hne⟩ := hg
    rw [show spell d (c :: r) false = dashes ++ c :: r from rfl, explainTok_long (shapeOf_long_mk value hc hne),
      explainLong, if_pos hv]
  | true =>
    obtain ⟨c, hl, hc1, hc2⟩ := hs rfl
    rw [show spell d n true = ['-', c] by simp [spell, hl],
      explainTok_short (shapeOf_short_mk value hc1 (by simpa using hc2.symm)), explainShort,
      valueOptOfLetter_of_letterOf hwf.letters hl]

/-- A canonical option-like item is spelled by one option-like token, which is explained as that
item; only `.optSep` is followed by a second token, the value it owns. -/
theorem explainGo_renderItem (d : Decl) (hwf : WF d) (it : Item) (h : CanonOpt d it) (rest : List Str) :
    explainGo d false (renderItem d it ++ rest) = (explainGo d false rest).map (it :: ·) := by
  cases it with
  | pos s => exact h.elim
  | sep => exact h.elim
  | optSep n sh v =>
    obtain ⟨hv, hg, hs, hval⟩ := h
    have hx := explainTok_spell d hwf n sh none hv hg hs (some v)
    rw [append_eqTail_none, explainValue, if_pos hval] at hx
    exact explainGo_of_explainTok (rest := v :: rest) hx
  | optEq n sh v =>
    obtain ⟨hv, hg, hs⟩ := h
    exact explainGo_of_explainTok (owns := false) (explainTok_spell d hwf n sh (some v) hv hg hs _)
  | togLong n =>
    obtain ⟨ht, ⟨c, r, rfl, hc, _⟩, hne⟩ := h
    have hsh := shapeOf_long_mk none hc hne
    rw [append_eqTail_none] at hsh
    refine explainGo_of_explainTok (owns := false) ?_
    rw [explainTok_long hsh, explainLong, if_neg (togName_not_valueName d hwf _ ht), if_pos ht]
    rfl
  | togNeg n =>
    obtain ⟨ht, hne⟩ := h
    have hsh : shapeOf (dashes ++ noPrefix ++ n) = some (.long (noPrefix ++ n) none) := by
      have := shapeOf_long_mk (c := 'n') (r := ['o', '-'] ++ n) none (by decide) (by simpa using hne)
      rwa [append_eqTail_none] at this
    refine explainGo_of_explainTok (owns := false) ?_
    obtain ⟨h1, h2⟩ := noName_undeclared d hwf n ht
    have hdrop : (noPrefix ++ n).drop 3 = n := rfl
    rw [explainTok_long hsh, explainLong, if_neg h1, if_neg h2, hdrop, if_pos (by simp [noPrefix, ht])]
    rfl
  | togShort ls =>
    obtain ⟨⟨c, r, rfl, hc1, hc2⟩, hne, hall⟩ := h
    have hsh := shapeOf_short_mk none hc1 hne
    rw [append_eqTail_none] at hsh
    refine explainGo_of_explainTok (owns := false) ?_
    rw [explainTok_short hsh]
    cases r with
    | nil =>
      have hc : isTogLetter d c = true := by simpa using hall
      simp only [explainShort, togLetter_not_valueLetter d hwf c hc, Option.isNone_none, hc, Bool.and_self, if_true]
    | cons c2 r2 => simp only [explainShort, Option.isNone_none, hall, Bool.and_self, if_true]

/-- A canonical item list, read in only-positionals mode `onlyPos`: before the cut positionals are
value tokens and option-like items are well-formed; `--` or (in greedy mode) the first positional
starts the cut, after which there are positionals only (of any content). -/
def CanonGo (d : Decl) : Bool → List Item → Prop
  | _, [] => True
  | onlyPos, it :: rest =>
    if onlyPos then (∃ s, it = .pos s) ∧ CanonGo d true rest
    else match it with
      | .pos s => isValueTok s = true ∧ CanonGo d d.greedy rest
      | .sep => CanonGo d true rest
      | it => CanonOpt d it ∧ CanonGo d false rest

/-- **Every canonical spelling is understood as meant**: rendering a canonical item list and
explaining the tokens gives back exactly the item list. -/
theorem explainGo_render_canon (d : Decl) (hwf : WF d) (items : List Item) (onlyPos : Bool)
    (h : CanonGo d onlyPos items) : explainGo d onlyPos (render d items) = some items := by
  induction items generalizing onlyPos with
  | nil => exact explainGo_nil d onlyPos
  | cons it rest ih =>
    rw [render_cons]
    cases onlyPos with
    | true =>
      obtain ⟨⟨s, rfl⟩, hrest⟩ := h
      rw [renderItem, List.singleton_append, explainGo_pos rfl, Bool.true_or, ih _ hrest]
      rfl
    | false =>
      cases it with
      | pos s =>
        rw [renderItem, List.singleton_append, explainGo_pos (by simp [h.1]), Bool.false_or, ih _ h.2]
        rfl
      | sep =>
        rw [renderItem, List.singleton_append, explainGo_sep rfl rfl, ih _ h]
        rfl
      | optSep _ _ _ | optEq _ _ _ | togLong _ | togNeg _ | togShort _ =>
        rw [explainGo_renderItem d hwf _ h.1, ih _ h.2]
        rfl

end NitroVerif.Opt
