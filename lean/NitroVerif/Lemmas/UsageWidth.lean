import NitroVerif.Model.Usage

/-!
What the width clause of C15 rests on: `lineLens` (the line lengths of a text) with its laws for
concatenation, the one step of `format_padded`'s loop read as line lengths (`lineLens_fpGo_cons`), and
`neverFits` (the loop's test for a word that can never fit), `Room`, the loop's invariant; and the pieces of the model's `formatEntry` and `usage` under names
(`entryLeft`, `entryText`, `synopsisText`, `synopsisPara`; `formatEntry_eq`, `usage_eq`).
-/
namespace NitroVerif.Usage
open NitroVerif.Str

/-- the lengths of the lines of `s`, when the line `s` continues already has `col` characters -/
def lineLens : Nat → Str → List Nat
  | col, [] => [col]
  | col, c :: cs => if c = '\n' then col :: lineLens 0 cs else lineLens (col + 1) cs

theorem lineLens_nl_cons (col : Nat) (s : Str) : lineLens col ('\n' :: s) = col :: lineLens 0 s := by
  simp [lineLens]

theorem lineLens_append (col : Nat) (a b : Str) (h : '\n' ∉ a) :
    lineLens col (a ++ b) = lineLens (col + a.length) b := by
  fun_induction lineLens col a with
  | case1 col => rfl
  | case2 col cs ih => exact absurd List.mem_cons_self h
  | case3 col c cs hc ih =>
    rw [List.cons_append, lineLens, if_neg hc, ih fun e => h (List.mem_cons_of_mem _ e), List.length_cons,
      Nat.add_right_comm, Nat.add_assoc]

theorem lineLens_noNl (col : Nat) (a : Str) (h : '\n' ∉ a) : lineLens col a = [col + a.length] := by
  simpa [lineLens] using lineLens_append col a [] h

theorem lineLens_append_nl (col : Nat) (a b : Str) :
    lineLens col (a ++ '\n' :: b) = lineLens col a ++ lineLens 0 b := by
  fun_induction lineLens col a with
  | case1 col => exact lineLens_nl_cons col b
  | case2 col cs ih => rw [List.cons_append, lineLens_nl_cons, ih, List.cons_append]
  | case3 col c cs hc ih => rw [List.cons_append, lineLens, if_neg hc, ih]

theorem lineLens_line (col : Nat) (a b : Str) (h : '\n' ∉ a) :
    lineLens col (a ++ '\n' :: b) = (col + a.length) :: lineLens 0 b := by
  rw [lineLens_append_nl, lineLens_noNl _ _ h, List.singleton_append]

theorem lineLens_snoc_nl (col : Nat) (a : Str) : lineLens col (a ++ ['\n']) = lineLens col a ++ [0] :=
  lineLens_append_nl col a []

theorem lineLens_append_nlnl (col : Nat) (a b : Str) :
    lineLens col (a ++ "\n\n".toList ++ b) = lineLens col a ++ [0] ++ lineLens 0 b := by
  have : a ++ "\n\n".toList ++ b = a ++ '\n' :: '\n' :: b := by simp
  rw [this, lineLens_append_nl, lineLens_nl_cons, List.append_assoc, List.singleton_append]

theorem blanks_length (n : Int) : ((blanks n).length : Int) = max 1 n := by
  unfold blanks; simp only [List.length_replicate]; split <;> omega

theorem blanks_noNl (n : Int) : '\n' ∉ blanks n := by
  unfold blanks; intro h; have := List.eq_of_mem_replicate h; simp at this

theorem untab_length (w : Str) : (untab w).length = w.length := by simp [untab]

theorem untab_noNl (w : Str) (h : '\n' ∉ w) : '\n' ∉ untab w := by
  unfold untab
  intro hm
  obtain ⟨c, hc, he⟩ := List.mem_map.mp hm
  by_cases ht : c = '\t'
  · simp [ht] at he
  · simp only [ht, if_false] at he; exact h (he ▸ hc)

/-- the size_t comparison of `format_padded`: a word that fits on no line behind the padding, and is
therefore put on the line that is current -/
def neverFits (leftPad maxW : Int) (w : Str) : Bool :=
  (0 ≤ maxW - leftPad) && decide ((w.length : Int) + 1 > maxW - leftPad)

theorem neverFits_iff {leftPad maxW : Int} (h : leftPad ≤ maxW) (w : Str) :
    neverFits leftPad maxW w = true ↔ maxW - leftPad < (w.length : Int) + 1 := by
  simp [neverFits]; omega

theorem fpGo_cons (leftPad maxW space : Int) (pending : Option Int) (word : Str) (rest : List Str) :
    fpGo leftPad maxW space pending (word :: rest) =
      if neverFits leftPad maxW word || decide ((word.length : Int) + 1 ≤ space) then
        blanks (pending.getD 1) ++ untab word ++ fpGo leftPad maxW (space - (word.length + 1)) none rest
      else
        '\n' :: blanks leftPad ++ untab word ++ fpGo leftPad maxW (maxW - leftPad - (word.length + 1)) none rest := by
  simp only [fpGo, untab_length]; rfl

theorem lineLens_fpGo_cons (leftPad maxW space : Int) (pending : Option Int) (word : Str) (rest : List Str)
    (col : Nat) (h : '\n' ∉ word) :
    lineLens col (fpGo leftPad maxW space pending (word :: rest)) =
      if neverFits leftPad maxW word || decide ((word.length : Int) + 1 ≤ space) then
        lineLens (col + (blanks (pending.getD 1)).length + word.length)
          (fpGo leftPad maxW (space - (word.length + 1)) none rest)
      else
        col :: lineLens ((blanks leftPad).length + word.length)
          (fpGo leftPad maxW (maxW - leftPad - (word.length + 1)) none rest) := by
  rw [fpGo_cons]
  split
  · rw [List.append_assoc, lineLens_append _ _ _ (blanks_noNl _), lineLens_append _ _ _ (untab_noNl _ h),
      untab_length]
  · rw [List.cons_append, List.cons_append, lineLens_nl_cons, List.append_assoc, lineLens_append _ _ _ (blanks_noNl _),
      lineLens_append _ _ _ (untab_noNl _ h), untab_length, Nat.zero_add]

/-- The invariant of the loop on a line that holds no never-fitting word: `space` counts the columns
that are left, i.e. a word with `|w| + 1 ≤ space`, written behind its separator, ends within `maxW`.
(`space = 0` with any `col` is how `format_padded` starts on a line that is already beyond the padding.) -/
def Room (maxW : Int) (col : Nat) (pending : Option Int) (space : Int) : Prop :=
  0 ≤ space ∧ (space ≤ 0 ∨ (col : Int) + ((blanks (pending.getD 1)).length : Int) - 1 ≤ maxW - space)

namespace Room

theorem start_le {leftPad maxW : Int} {col : Nat} (h1 : leftPad < maxW) (hc : (col : Int) ≤ leftPad) :
    Room maxW col (some (leftPad - col)) (maxW - leftPad) := by
  refine ⟨by omega, Or.inr ?_⟩
  rw [Option.getD_some, blanks_length]; omega

theorem start_gt (maxW : Int) (col : Nat) : Room maxW col none 0 := ⟨Int.le_refl 0, Or.inl (Int.le_refl 0)⟩

theorem fits {maxW B space : Int} {col : Nat} {pending : Option Int} (h : Room maxW col pending space)
    {n : Nat} (hf : (n : Int) + 1 ≤ space) (hB : maxW ≤ B) :
    ((col + (blanks (pending.getD 1)).length + n : Nat) : Int) ≤ B ∧
      Room maxW (col + (blanks (pending.getD 1)).length + n) none (space - (n + 1)) := by
  have hb := blanks_length 1
  obtain ⟨_, h⟩ := h
  refine ⟨by omega, by omega, Or.inr ?_⟩
  rw [Option.getD_none]; omega

theorem fresh {leftPad maxW B : Int} (h0 : 0 ≤ leftPad) {n : Nat} (hn : (n : Int) + 1 ≤ maxW - leftPad)
    (hB : maxW ≤ B) :
    (((blanks leftPad).length + n : Nat) : Int) ≤ B ∧
      Room maxW ((blanks leftPad).length + n) none (maxW - leftPad - (n + 1)) := by
  have hb := blanks_length 1
  have hp := blanks_length leftPad
  refine ⟨by omega, by omega, Or.inr ?_⟩
  rw [Option.getD_none]; omega

end Room

/-- the left column of an option-section entry: `  -s, --[no-]name METAVAR` -/
def entryLeft (e : Entry) : Str :=
  "  ".toList ++ (if e.short ≠ [] then ['-'] ++ e.short ++ ", ".toList else []) ++ formatName e ++
    (if e.kind = .t then [] else ' ' :: e.metavar)

/-- the text that is wrapped to the right of it: description, environment hint, default -/
def entryText (e : Entry) : Str :=
  join ([e.description] ++
    (if e.env ≠ [] then ["Can be set using the environment variable '".toList ++ e.env ++ "'.".toList] else []) ++
    [formatDefault e]) [' ']

theorem formatEntry_eq (e : Entry) :
    formatEntry e = entryLeft e ++
      (if entryText e ≠ [] then formatPadded (entryLeft e).length (entryText e) 40 80 else []) ++ ['\n'] := rfl

/-- the synopsis before wrapping (with its leading blank) -/
def synopsisText (d : UDecl) (togsByName optsByName mulsByName longToggles : List Entry) : Str :=
  let shortList := (togsByName.filter (·.short ≠ [])).map (·.short) |>.flatten
  let sorted := shortList.mergeSort (fun a b => a.toNat ≤ b.toNat)
  (if shortList ≠ [] then " [-".toList ++ sorted ++ [']'] else []) ++
    (longToggles.map fun t => ' ' :: formatSynopsis t).flatten ++
    (optsByName.map fun o => ' ' :: formatSynopsis o).flatten ++
    (mulsByName.map fun m => ' ' :: formatSynopsis m).flatten ++
    (if d.positionals then " [".toList ++ d.posName ++ " ...]".toList else [])

/-- the first paragraph of the usage text -/
def synopsisPara (d : UDecl) (t o m l : List Entry) : Str :=
  "usage: ".toList ++ d.app ++
    (if synopsisText d t o m l ≠ [] then
      formatPadded ("usage: ".toList ++ d.app).length ((synopsisText d t o m l).drop 1) (8 + d.app.length) 80
    else [])

theorem usage_eq (d : UDecl) (t o m l : List Entry) :
    usage d t o m l = synopsisPara d t o m l ++ "\n\n".toList ++
      (if d.about ≠ [] then d.about ++ "\n\n".toList else []) ++ (d.groups.map groupUsage).flatten := rfl

theorem lineLens_formatEntry (e : Entry) (hl : '\n' ∉ entryLeft e) :
    lineLens 0 (formatEntry e) =
      (if entryText e ≠ [] then
        lineLens (entryLeft e).length (formatPadded (entryLeft e).length (entryText e) 40 80)
      else [(entryLeft e).length]) ++ [0] := by
  rw [formatEntry_eq, lineLens_snoc_nl, lineLens_append _ _ _ hl, Nat.zero_add]
  split
  · rfl
  · rfl

theorem lineLens_synopsisPara (d : UDecl) (t o m l : List Entry) (happ : '\n' ∉ d.app) :
    lineLens 0 (synopsisPara d t o m l) =
      if synopsisText d t o m l ≠ [] then
        lineLens (7 + d.app.length)
          (formatPadded (7 + d.app.length : Nat) ((synopsisText d t o m l).drop 1) (8 + d.app.length) 80)
      else [7 + d.app.length] := by
  have hhead : '\n' ∉ "usage: ".toList ++ d.app := by
    intro h
    rcases List.mem_append.mp h with h | h
    · revert h; decide
    · exact happ h
  have h7 : "usage: ".toList.length = 7 := by decide
  have hlen : ("usage: ".toList ++ d.app).length = 7 + d.app.length := by
    rw [List.length_append, h7]
  unfold synopsisPara
  rw [lineLens_append _ _ _ hhead, Nat.zero_add, hlen]
  split
  · rfl
  · rfl

end NitroVerif.Usage
