import NitroVerif.Lemmas.Str
import NitroVerif.Lemmas.UsageWidth

/-!
The width clause of C15 with no assumption on the words: `format_padded` puts a word that can never
fit behind the padding (`neverFits`) on the line that is current, and every line that holds no such
word stays within the width.

`fpLines` is a ghost of `fpGo`: for every line of the output (the continued one first) its length
and whether a never-fitting word was put on it.  `fpLines_lens` ties it to the text (`lineLens`),
`fpLines_width` is the bound.  `fpCores` is a second ghost: for every line its length and its *core* —
the length it had when the first never-fitting word was put on it (the whole length if there is
none).  Behind such a word the remaining-space counter is negative, so only further never-fitting
words can follow on that line; `fpCores_width` bounds every core.
-/
namespace NitroVerif.Usage
open NitroVerif.Str

def fpLines (leftPad maxW : Int) : Int → Option Int → List Str → Nat → Bool → List (Nat × Bool)
  | _, _, [], col, f => [(col, f)]
  | space, pending, word :: rest, col, f =>
    let w := untab word
    let n : Int := w.length + 1
    let never : Bool := (0 ≤ maxW - leftPad) && decide (n > maxW - leftPad)
    if never || decide (n ≤ space) then
      fpLines leftPad maxW (space - n) none rest (col + (blanks (pending.getD 1)).length + w.length) (f || never)
    else
      (col, f) :: fpLines leftPad maxW (maxW - leftPad - n) none rest ((blanks leftPad).length + w.length) false

theorem fpLines_cons (leftPad maxW space : Int) (pending : Option Int) (word : Str) (rest : List Str)
    (col : Nat) (f : Bool) :
    fpLines leftPad maxW space pending (word :: rest) col f =
      if neverFits leftPad maxW word || decide ((word.length : Int) + 1 ≤ space) then
        fpLines leftPad maxW (space - (word.length + 1)) none rest
          (col + (blanks (pending.getD 1)).length + word.length) (f || neverFits leftPad maxW word)
      else
        (col, f) :: fpLines leftPad maxW (maxW - leftPad - (word.length + 1)) none rest
          ((blanks leftPad).length + word.length) false := by
  simp only [fpLines, untab_length]; rfl

theorem fpLines_lens (leftPad maxW : Int) (words : List Str) (hw : ∀ w ∈ words, '\n' ∉ w)
    (space : Int) (pending : Option Int) (col : Nat) (f : Bool) :
    (fpLines leftPad maxW space pending words col f).map (·.1) =
      lineLens col (fpGo leftPad maxW space pending words) := by
  induction words generalizing space pending col f with
  | nil => rfl
  | cons word rest ih =>
    have hrest : ∀ w ∈ rest, '\n' ∉ w := fun w hm => hw w (List.mem_cons_of_mem _ hm)
    rw [fpLines_cons, lineLens_fpGo_cons _ _ _ _ _ _ _ (hw word List.mem_cons_self)]
    split
    · exact ih hrest ..
    · rw [List.map_cons, ih hrest]

/-- `f` says whether the line being continued already holds a never-fitting word (then nothing is
claimed about it, and nothing is assumed about `space`). -/
theorem fpLines_le (leftPad maxW B : Int) (h0 : 0 ≤ leftPad) (h1 : leftPad < maxW) (hB : maxW ≤ B)
    (words : List Str) (col : Nat) (space : Int) (pending : Option Int) (f : Bool)
    (hinv : f = false → (col : Int) ≤ B ∧ Room maxW col pending space) :
    ∀ p ∈ fpLines leftPad maxW space pending words col f, p.2 = false → (p.1 : Int) ≤ B := by
  induction words generalizing col space pending f with
  | nil => exact List.forall_mem_singleton.mpr fun hf => (hinv hf).1
  | cons word rest ih =>
    rw [fpLines_cons]
    by_cases hn : neverFits leftPad maxW word = true
    · -- the word goes on the current line, of which nothing is claimed from now on
      rw [hn, Bool.true_or, if_pos rfl, Bool.or_true]
      exact ih _ _ _ true nofun
    · have hw : (word.length : Int) + 1 ≤ maxW - leftPad := by
        rw [neverFits_iff (Int.le_of_lt h1)] at hn; omega
      rw [Bool.not_eq_true] at hn
      rw [hn, Bool.false_or, Bool.or_false]
      split
      · rename_i hfit
        exact ih _ _ _ f fun hf => (hinv hf).2.fits (of_decide_eq_true hfit) hB
      · exact List.forall_mem_cons.mpr ⟨fun hf => (hinv hf).1, ih _ _ _ false fun _ => Room.fresh h0 hw hB⟩

/-- **Every line without a never-fitting word keeps within the width** — no assumption on the words. -/
theorem fpLines_width (leftPad maxW : Int) (h0 : 0 ≤ leftPad) (h1 : leftPad < maxW)
    (words : List Str) (col : Nat) (space : Int) (pending : Option Int) (f : Bool)
    (hinv : f = false → 0 ≤ space ∧
      (space ≤ 0 ∨ (col : Int) + ((blanks (pending.getD 1)).length : Int) - 1 ≤ maxW - space)) :
    ∀ p ∈ fpLines leftPad maxW space pending words col f, p.2 = false →
      (p.1 : Int) ≤ if f then maxW else max (col : Int) maxW := by
  refine fpLines_le leftPad maxW _ h0 h1 (by split <;> omega) words col space pending f fun hf => ⟨?_, hinv hf⟩
  subst hf
  exact Int.le_max_left ..

theorem fpLines_unflagged (leftPad maxW : Int) (words : List Str)
    (hw : ∀ w ∈ words, neverFits leftPad maxW w = false) (space : Int) (pending : Option Int) (col : Nat) :
    ∀ p ∈ fpLines leftPad maxW space pending words col false, p.2 = false := by
  induction words generalizing space pending col with
  | nil => exact List.forall_mem_singleton.mpr rfl
  | cons word rest ih =>
    obtain ⟨hword, hrest⟩ := List.forall_mem_cons.mp hw
    rw [fpLines_cons, hword, Bool.or_false]
    split
    · exact ih hrest _ _ _
    · exact List.forall_mem_cons.mpr ⟨rfl, ih hrest _ _ _⟩

/-- the ghost for a whole call of `format_padded` -/
def formatPaddedLines (col : Nat) (text : Str) (leftPad maxW : Int) : List (Nat × Bool) :=
  let words := splitGo [' '] (by decide) text
  if (col : Int) ≤ leftPad then fpLines leftPad maxW (maxW - leftPad) (some (leftPad - col)) words col false
  else fpLines leftPad maxW 0 none words col false

theorem words_noNl {text : Str} (hnl : '\n' ∉ text) : ∀ w ∈ splitGo [' '] (by decide) text, '\n' ∉ w :=
  fun _ hm hc => hnl (mem_of_mem_splitGo _ _ _ _ _ hm hc)

theorem formatPaddedLines_lens (col : Nat) (text : Str) (leftPad maxW : Int) (hnl : '\n' ∉ text) :
    (formatPaddedLines col text leftPad maxW).map (·.1) = lineLens col (formatPadded col text leftPad maxW) := by
  unfold formatPaddedLines formatPadded
  split <;> exact fpLines_lens _ _ _ (words_noNl hnl) ..

theorem formatPaddedLines_width (col : Nat) (text : Str) (leftPad maxW : Int) (h0 : 0 ≤ leftPad)
    (h1 : leftPad < maxW) :
    ∀ p ∈ formatPaddedLines col text leftPad maxW, p.2 = false → (p.1 : Int) ≤ max (col : Int) maxW := by
  unfold formatPaddedLines
  split
  · exact fpLines_width leftPad maxW h0 h1 _ col _ _ false fun _ => Room.start_le h1 ‹_›
  · exact fpLines_width leftPad maxW h0 h1 _ col _ _ false fun _ => Room.start_gt maxW col

theorem formatPaddedLines_unflagged (col : Nat) (text : Str) (leftPad maxW : Int)
    (hw : ∀ w ∈ splitGo [' '] (by decide) text, neverFits leftPad maxW w = false) :
    ∀ p ∈ formatPaddedLines col text leftPad maxW, p.2 = false := by
  unfold formatPaddedLines
  split <;> exact fpLines_unflagged leftPad maxW _ hw _ _ _

def fpCores (leftPad maxW : Int) : Int → Option Int → List Str → Nat → Option Nat → List (Nat × Nat)
  | _, _, [], col, core => [(col, core.getD col)]
  | space, pending, word :: rest, col, core =>
    let w := untab word
    let n : Int := w.length + 1
    let never : Bool := (0 ≤ maxW - leftPad) && decide (n > maxW - leftPad)
    let col' := col + (blanks (pending.getD 1)).length + w.length
    if never then fpCores leftPad maxW (space - n) none rest col' (some (core.getD col))
    else if decide (n ≤ space) then
      -- a fitting word goes on the current line: everything so far counts (if the line already held a
      -- never-fitting word this would push the core up — `fpCores_width` shows it cannot happen)
      fpCores leftPad maxW (space - n) none rest col' (core.map fun _ => col')
    else
      (col, core.getD col) :: fpCores leftPad maxW (maxW - leftPad - n) none rest ((blanks leftPad).length + w.length) none

theorem fpCores_cons (leftPad maxW space : Int) (pending : Option Int) (word : Str) (rest : List Str)
    (col : Nat) (core : Option Nat) :
    fpCores leftPad maxW space pending (word :: rest) col core =
      if neverFits leftPad maxW word then
        fpCores leftPad maxW (space - (word.length + 1)) none rest
          (col + (blanks (pending.getD 1)).length + word.length) (some (core.getD col))
      else if decide ((word.length : Int) + 1 ≤ space) then
        fpCores leftPad maxW (space - (word.length + 1)) none rest
          (col + (blanks (pending.getD 1)).length + word.length)
          (core.map fun _ => col + (blanks (pending.getD 1)).length + word.length)
      else
        (col, core.getD col) :: fpCores leftPad maxW (maxW - leftPad - (word.length + 1)) none rest
          ((blanks leftPad).length + word.length) none := by
  simp only [fpCores, untab_length]; rfl

theorem fpCores_lens (leftPad maxW : Int) (words : List Str) (hw : ∀ w ∈ words, '\n' ∉ w)
    (space : Int) (pending : Option Int) (col : Nat) (core : Option Nat) :
    (fpCores leftPad maxW space pending words col core).map (·.1) =
      lineLens col (fpGo leftPad maxW space pending words) := by
  induction words generalizing space pending col core with
  | nil => rfl
  | cons word rest ih =>
    have hrest : ∀ w ∈ rest, '\n' ∉ w := fun w hm => hw w (List.mem_cons_of_mem _ hm)
    rw [fpCores_cons, lineLens_fpGo_cons _ _ _ _ _ _ _ (hw word List.mem_cons_self)]
    cases neverFits leftPad maxW word with
    | true => exact ih hrest ..
    | false =>
      rw [Bool.false_or, if_neg Bool.false_ne_true]
      split
      · exact ih hrest ..
      · rw [List.map_cons, ih hrest]

/-- **The core of every line keeps within the bound** `B ≥ maxW` (the bound of the continued line
is `max col maxW`).  `core = some c`: the current line already holds a never-fitting word, its core
is `c`, and the counter is negative. -/
theorem fpCores_width (leftPad maxW B : Int) (h0 : 0 ≤ leftPad) (h1 : leftPad < maxW) (hB : maxW ≤ B)
    (words : List Str) (col : Nat) (space : Int) (pending : Option Int) (core : Option Nat)
    (hsp : space ≤ maxW - leftPad)
    (hnone : core = none → (col : Int) ≤ B ∧ 0 ≤ space ∧
      (space ≤ 0 ∨ (col : Int) + ((blanks (pending.getD 1)).length : Int) - 1 ≤ maxW - space))
    (hsome : ∀ c, core = some c → space < 0 ∧ (c : Int) ≤ B) :
    ∀ p ∈ fpCores leftPad maxW space pending words col core, (p.2 : Int) ≤ B := by
  induction words generalizing col space pending core with
  | nil =>
    refine List.forall_mem_singleton.mpr ?_
    cases core with
    | none => exact (hnone rfl).1
    | some c => exact (hsome c rfl).2
  | cons word rest ih =>
    have hcore : ((core.getD col : Nat) : Int) ≤ B := by
      cases core with
      | none => exact (hnone rfl).1
      | some c => exact (hsome c rfl).2
    rw [fpCores_cons]
    by_cases hn : neverFits leftPad maxW word = true
    · -- behind a never-fitting word the counter is negative
      rw [if_pos hn]
      rw [neverFits_iff (Int.le_of_lt h1)] at hn
      exact ih _ _ none _ (by omega) (fun h => nomatch h) fun c hc => by cases hc; exact ⟨by omega, hcore⟩
    · have hw : (word.length : Int) + 1 ≤ maxW - leftPad := by
        rw [neverFits_iff (Int.le_of_lt h1)] at hn; omega
      rw [if_neg hn]
      split
      · rename_i hfit
        have hfit := of_decide_eq_true hfit
        -- so the line a fitting word is appended to holds no never-fitting word
        cases core with
        | some c => exact absurd (hsome c rfl).1 (by omega)
        | none => exact ih _ _ none none (by omega) (fun _ => Room.fits (hnone rfl).2 hfit hB) (fun _ => nofun)
      · exact List.forall_mem_cons.mpr
          ⟨hcore, ih _ _ none none (by omega) (fun _ => Room.fresh h0 hw hB) (fun _ => nofun)⟩

theorem fpCores_core_le (leftPad maxW : Int) (words : List Str) (space : Int) (pending : Option Int)
    (col : Nat) (core : Option Nat) (hc : core.getD col ≤ col) :
    ∀ p ∈ fpCores leftPad maxW space pending words col core, p.2 ≤ p.1 := by
  induction words generalizing space pending col core with
  | nil => exact List.forall_mem_singleton.mpr hc
  | cons word rest ih =>
    rw [fpCores_cons]
    split
    · exact ih _ _ _ _ (by rw [Option.getD_some]; omega)
    · split
      · exact ih _ _ _ _ (by cases core <;> exact Nat.le_refl _)
      · exact List.forall_mem_cons.mpr ⟨hc, ih _ _ _ none (Nat.le_refl _)⟩

/-- the second ghost for a whole call of `format_padded` -/
def formatPaddedCores (col : Nat) (text : Str) (leftPad maxW : Int) : List (Nat × Nat) :=
  let words := splitGo [' '] (by decide) text
  if (col : Int) ≤ leftPad then fpCores leftPad maxW (maxW - leftPad) (some (leftPad - col)) words col none
  else fpCores leftPad maxW 0 none words col none

theorem formatPaddedCores_lens (col : Nat) (text : Str) (leftPad maxW : Int) (hnl : '\n' ∉ text) :
    (formatPaddedCores col text leftPad maxW).map (·.1) = lineLens col (formatPadded col text leftPad maxW) := by
  unfold formatPaddedCores formatPadded
  split <;> exact fpCores_lens _ _ _ (words_noNl hnl) ..

theorem formatPaddedCores_core_le (col : Nat) (text : Str) (leftPad maxW : Int) :
    ∀ p ∈ formatPaddedCores col text leftPad maxW, p.2 ≤ p.1 := by
  unfold formatPaddedCores
  split <;> exact fpCores_core_le _ _ _ _ _ _ none (Nat.le_refl _)

theorem formatPaddedCores_width (col : Nat) (text : Str) (leftPad maxW : Int) (h0 : 0 ≤ leftPad)
    (h1 : leftPad < maxW) :
    ∀ p ∈ formatPaddedCores col text leftPad maxW, (p.2 : Int) ≤ max (col : Int) maxW := by
  unfold formatPaddedCores
  split
  · exact fpCores_width leftPad maxW _ h0 h1 (Int.le_max_right ..) _ col _ _ none (Int.le_refl _)
      (fun _ => ⟨Int.le_max_left .., Room.start_le h1 ‹_›⟩) (fun _ => nofun)
  · exact fpCores_width leftPad maxW _ h0 h1 (Int.le_max_right ..) _ col _ _ none (by omega)
      (fun _ => ⟨Int.le_max_left .., Room.start_gt maxW col⟩) (fun _ => nofun)

end NitroVerif.Usage
